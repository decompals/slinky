/-
  C01, entries with `section_order`: the sections an entry contributes to a group are exactly those whose
  destination is that group, each once (`mem_sectionsToEmitHere`, `section_once_in_destination_group`); in a segment
  without sub-groups an object entry writes one statement for each of them (`object_with_section_order`).
-/
import Props.Emit
namespace Slinky.C01
open Slinky List

/-- where `section_order` sends a section: its destination when it is a key, itself otherwise. -/
def destOf (order : List (Str × Str)) (k : Str) : Str := (lookup k order).getD k

/-- an included entry without `section_order` is asked for the section of the group only: what
`emit_file` writes for it, then (in a script that carries the entry itself, for an entry that is
no group) what the entry gives for the sub-groups of that section. -/
theorem emitEntry_no_order (cx : Ctx) (seg : Segment) (secs : List Str) (n : Nat) (f : FileInfo) (sec base : Str)
    (parents : List Str) (hinc : shouldEmit cx.o f.cond = true) (hnp : sec ∉ parents) (hso : f.sectionOrder = []) :
    emitEntry cx seg secs (n + 1) f sec base parents
      = appendE (fileBody cx seg (fun b => concatMapE (fun c => emitEntry cx seg secs n c sec b []) f.files) f sec base)
          (if cx.refPartial || decide (f.kind = .group) then .ok []
           else concatMapE (fun other => emitEntry cx seg secs n f other base (sec :: parents)) (subgroupsOf seg sec)) := by
  rw [emitEntry_succ, hso, sectionsToEmitHere, if_pos List.isEmpty_nil, Slinky.concatMapE_singleton, hinc, if_neg hnp]
  rfl

/-- a group without `section_order` adds nothing of its own: its files, in order, under its directory. -/
theorem emitEntry_group (cx : Ctx) (seg : Segment) (secs : List Str) (n : Nat) (f : FileInfo) (sec base : Str)
    (parents : List Str) (hinc : shouldEmit cx.o f.cond = true) (hnp : sec ∉ parents) (hk : f.kind = .group)
    (hso : f.sectionOrder = []) :
    emitEntry cx seg secs (n + 1) f sec base parents
      = (liftPath (cx.esc cx.o f.dir)).bind fun d =>
          concatMapE (fun child => emitEntry cx seg secs n child sec (pathPush base d) []) f.files := by
  rw [emitEntry_no_order cx seg secs n f sec base parents hinc hnp hso]
  simp only [fileBody, hk, decide_true, Bool.or_true, if_true, appendE_ok_nil]

theorem count_sortBy (secs : List Str) (l : List Str) (x : Str) : (sortBy (keyLe secs) l).count x = l.count x :=
  (sortBy_perm_self _ l).count_eq x

theorem sectionsToEmitHere_perm_own_moved (order : List (Str × Str)) (sec : Str) (secs : List Str) :
    sectionsToEmitHere order sec secs ~
      (if (lookup sec order).isSome then [] else [sec]) ++ order.filterMap fun kv => if kv.2 = sec then some kv.1 else none := by
  unfold sectionsToEmitHere
  split
  · rename_i he
    rw [List.isEmpty_iff.1 he]
    exact .refl _
  · exact sortBy_perm_self _ _

theorem mem_own {order : List (Str × Str)} {sec k : Str} :
    k ∈ (if (lookup sec order).isSome then [] else [sec]) ↔ k = sec ∧ lookup sec order = none := by
  cases lookup sec order <;> simp

theorem mem_moved {order : List (Str × Str)} (hnd : (order.map (·.1)).Nodup) {sec k : Str} :
    k ∈ (order.filterMap fun kv => if kv.2 = sec then some kv.1 else none) ↔ lookup k order = some sec := by
  rw [lookup_eq_some_iff k order hnd sec, List.mem_filterMap]
  constructor
  · rintro ⟨⟨k', v⟩, hkv, h⟩
    split at h
    · cases h; subst ‹v = sec›; exact hkv
    · cases h
  · exact fun h => ⟨(k, sec), h, if_pos rfl⟩

/-- **which sections an entry contributes to a group**: exactly those whose destination is
that group (keys of `section_order` pairwise different, as a YAML mapping guarantees). -/
theorem mem_sectionsToEmitHere (order : List (Str × Str)) (hnd : (order.map (·.1)).Nodup) (sec : Str) (secs : List Str) (k : Str) :
    k ∈ sectionsToEmitHere order sec secs ↔ destOf order k = sec := by
  rw [(sectionsToEmitHere_perm_own_moved order sec secs).mem_iff, List.mem_append, mem_own, mem_moved hnd, destOf]
  constructor
  · rintro (⟨rfl, h⟩ | h) <;> rw [h] <;> rfl
  · intro h
    cases hl : lookup k order with
    | none =>
      rw [hl] at h
      exact .inl ⟨h, h ▸ hl⟩
    | some v =>
      rw [hl] at h
      exact .inr (congrArg some h)

/-- **an object entry with `section_order`, in a segment without sub-groups**: asked for a
group, it contributes one input statement per section whose destination is that group — its
own path, that section, `KEEP` per its effective value — in `(list position, name)` order. -/
theorem object_with_section_order (cx : Ctx) (seg : Segment) (secs : List Str) (n : Nat)
    (p : Str) (order : List (Str × Str)) (c : Cond) (keep : Keep) (sec base : Str) (q : Str)
    (hinc : shouldEmit cx.o c = true) (hesc : cx.esc cx.o p = .ok q)
    (hsub : seg.sectionsSubgroups = []) :
    emitEntry cx seg secs (n + 1) (.mk p .object [] 0 [] [] order [] [] c keep) sec base []
      = .ok ((sectionsToEmitHere order sec secs).map fun k =>
          Line.input (keepFor keep k) (display (pathPush base q)) none k seg.wildcardSections) := by
  have hs : ∀ k, subgroupsOf seg k = [] := by intro k; unfold subgroupsOf; rw [hsub]; rfl
  rw [emitEntry_succ]
  simp only [FileInfo.cond, FileInfo.sectionOrder, hinc, Bool.not_true, Bool.false_eq_true, if_false, List.not_mem_nil,
    fileBody, FileInfo.kind, FileInfo.path, FileInfo.keep, hesc, liftPath, Except.bind, hs, concatMapE_nil, ite_self,
    appendE_ok_nil]
  rw [concatMapE_pure, ← List.map_eq_flatMap]

theorem sectionsToEmitHere_nodup (order : List (Str × Str)) (hnd : (order.map (·.1)).Nodup) (secs : List Str) (g : Str) :
    (sectionsToEmitHere order g secs).Nodup := by
  rw [(sectionsToEmitHere_perm_own_moved order g secs).nodup_iff, List.nodup_append]
  refine ⟨by split <;> simp, ?_, ?_⟩
  · -- the moved sections are keys
    have e : (order.filterMap fun kv => if kv.2 = g then some kv.1 else none)
        = (order.filter (·.2 = g)).map (·.1) := by
      rw [← List.filterMap_eq_map', List.filterMap_filter]; simp
    rw [e]
    exact hnd.sublist (List.filter_sublist.map _)
  · -- a section moved to its own group is a key, so it is not listed a second time as the group's own
    rintro a ha _ hb rfl
    obtain ⟨rfl, h⟩ := mem_own.1 ha
    cases h.symm.trans ((mem_moved hnd).1 hb)

/-- **exactly once, in the group of its destination**: with pairwise different keys, a section
appears exactly once among what the entry contributes to the group of its destination and not
at all in what it contributes to any other group. -/
theorem section_once_in_destination_group (order : List (Str × Str)) (hnd : (order.map (·.1)).Nodup)
    (secs : List Str) (k g : Str) :
    (sectionsToEmitHere order g secs).count k = if destOf order k = g then 1 else 0 := by
  rw [(sectionsToEmitHere_nodup order hnd secs g).count]
  simp only [mem_sectionsToEmitHere order hnd]

end Slinky.C01
