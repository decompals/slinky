/-
  C18 / C01 in the image `Ld.link` returns: with `discard_wildcard_section` no input section is left over — every
  input section of the object table is either placed in an output section or discarded (nothing becomes an orphan
  section). `execK_mono`: for every statement and state, what is placed or discarded stays so. Whatever precedes the
  `/DISCARD/` block, its `*(*)` takes every input section that is still free (`link_discard_all`), and nothing behind it
  un-places anything.
-/
import Props.C03Partial
import Props.ImageTail
namespace Slinky.C18
open Slinky W Ld

theorem step_mono (objs : List InSec) (st : St) (l : Line) (r : List Line) :
    (∃ x, (step objs st l r).placed = st.placed ++ x) ∧ (∃ y, (step objs st l r).discarded = st.discarded ++ y) :=
  ⟨(step_frame objs st l r).placed.imp fun _ h => h.1, (step_frame objs st l r).discarded.imp fun _ h => h.1⟩

theorem execK_mono (objs : List InSec) : ∀ (ls : List Line) (st : St) (k : List Line),
    (∃ x, (execK objs st ls k).placed = st.placed ++ x) ∧ (∃ y, (execK objs st ls k).discarded = st.discarded ++ y) :=
  fun ls st k => execK_rel objs (P := fun _ => True)
    (R := fun a b => (∃ x, b.placed = a.placed ++ x) ∧ ∃ y, b.discarded = a.discarded ++ y)
    (fun _ => ⟨⟨[], (List.append_nil _).symm⟩, [], (List.append_nil _).symm⟩)
    (fun ⟨⟨x1, h1⟩, y1, g1⟩ ⟨⟨x2, h2⟩, y2, g2⟩ =>
      ⟨⟨x1 ++ x2, by rw [h2, h1, List.append_assoc]⟩, y1 ++ y2, by rw [g2, g1, List.append_assoc]⟩)
    (fun st l r _ => step_mono objs st l r) ls st k (fun _ _ => trivial)

def Accounted (st : St) (i : InSec) : Prop := (∃ p ∈ st.placed, p.inp = i) ∨ i ∈ st.discarded

theorem accounted_of_not_free (st : St) (i : InSec) (h : isFree st i = false) : Accounted st i := by
  unfold isFree at h
  simp only [Bool.and_eq_false_iff, Bool.not_eq_false', List.any_eq_true, decide_eq_true_eq] at h
  rcases h with ⟨p, hp, e⟩ | ⟨d, hd, e⟩
  · exact Or.inl ⟨p, hp, e⟩
  · exact Or.inr (e ▸ hd)

theorem accounted_mono (objs : List InSec) (ls : List Line) (st : St) (k : List Line) (i : InSec) (h : Accounted st i) :
    Accounted (execK objs st ls k) i := by
  obtain ⟨⟨x, hx⟩, ⟨y, hy⟩⟩ := execK_mono objs ls st k
  rcases h with ⟨p, hp, e⟩ | hd
  · exact Or.inl ⟨p, by rw [hx]; exact List.mem_append_left _ hp, e⟩
  · exact Or.inr (by rw [hy]; exact List.mem_append_left _ hd)

theorem discard_all (objs : List InSec) (st : St) (hd : st.inDiscard = true) (r : List Line) (i : InSec) (hi : i ∈ objs) :
    Accounted (step objs st (.discardPat c!"*") r) i := by
  cases hf : isFree st i
  · have := accounted_of_not_free st i hf
    have hm := accounted_mono objs [Line.discardPat c!"*"] st r i this
    simpa [execK] using hm
  · exact Or.inr ((discard_pat_image objs st hd c!"*" r).2.2 i hi hf (Or.inl rfl))

theorem endSections_discard (cx : Ctx) (emitted : List Str) (hw : cx.d.settings.discardWildcardSection = true) :
    ∃ F, endSections cx emitted = F ++ (discardBlock cx.d.settings ++ [.blockClose]) := by
  have h := endSections_eq cx emitted
  rw [if_pos (by rw [hw]; rfl), List.append_assoc, List.append_assoc (blankIf _), ← List.append_assoc] at h
  exact ⟨_, h⟩

/-- **whatever precedes it, the `/DISCARD/` block of `discard_wildcard_section`, whose last pattern is `*`, accounts for
every input section.** -/
theorem link_discard_all (objs : List InSec) (defsyms : List (Str × Nat)) (A : List Line) (s : Settings)
    (hw : s.discardWildcardSection = true) (T : List Line) (i : InSec) (hi : i ∈ objs) :
    (∃ p ∈ (link objs defsyms (A ++ (discardBlock s ++ T))).placed, p.inp = i) ∨
      i ∈ (link objs defsyms (A ++ (discardBlock s ++ T))).discarded := by
  rw [link_eq, discardBlock, hw, if_pos rfl]
  generalize carry _ = S0
  simp only [List.append_assoc, execK_append]
  generalize execK objs { syms := S0 } A _ = st5
  have h6 : (execK objs st5 [Line.discardHdr, Line.blockOpen]
      (s.sectionsDenylist.map Line.discardPat ++ ([Line.discardPat c!"*"] ++ ([Line.blockClose] ++ (T ++ []))))).inDiscard = true := rfl
  generalize execK objs st5 [Line.discardHdr, Line.blockOpen] _ = st6 at h6 ⊢
  have h7 := (execK_inDiscard objs (s.sectionsDenylist.map Line.discardPat) st6
    ([Line.discardPat c!"*"] ++ ([Line.blockClose] ++ (T ++ [])))
    fun l hl => by obtain ⟨p, _, rfl⟩ := List.mem_map.1 hl; exact ⟨nofun, nofun⟩).trans h6
  generalize execK objs st6 (s.sectionsDenylist.map Line.discardPat) _ = st7 at h7 ⊢
  exact accounted_mono objs _ _ [] i (accounted_mono objs _ _ _ i (discard_all objs st7 h7 ([] ++ ([Line.blockClose] ++ (T ++ []))) i hi))

/-- `final_placed_or_discarded` for any writer context. -/
theorem accounted_core (objs : List InSec) (cx : Ctx) (hsy : cx.emitSecSyms = true) (vc : Bool)
    (segs : List Segment) (ls : List Line) (emitted : List Str) (T : List Line)
    (hsegs : addSegments cx [] segs = .ok (ls, emitted))
    (hall : ∀ s ∈ segs, shouldEmit cx.o s.cond = true → s.allocSections ≠ [])
    (hw : cx.d.settings.discardWildcardSection = true)
    (defsyms : List (Str × Nat)) (i : InSec) (hi : i ∈ objs) :
    (∃ p ∈ (link objs defsyms (versionComment vc ++ (beginSections cx ++ ls ++ (endSections cx emitted ++ T)))).placed, p.inp = i) ∨
      i ∈ (link objs defsyms (versionComment vc ++ (beginSections cx ++ ls ++ (endSections cx emitted ++ T)))).discarded := by
  obtain ⟨F, hF⟩ := endSections_discard cx emitted hw
  have hform : versionComment vc ++ (beginSections cx ++ ls ++ (endSections cx emitted ++ T))
      = (versionComment vc ++ (beginSections cx ++ ls ++ F)) ++ (discardBlock cx.d.settings ++ ([Line.blockClose] ++ T)) := by
    rw [hF]; simp only [List.append_assoc]
  rw [hform]
  exact link_discard_all objs defsyms _ _ hw _ i hi

/-- **C18 / C01 in the linked image, for the whole ordinary script of a document: nothing is left over.** With
`discard_wildcard_section` every input section of the object table is placed in an output section or discarded. -/
theorem final_placed_or_discarded (objs : List InSec) (d : Document) (o : Opts) (vc : Bool) (script : List Line)
    (hmulti : d.settings.singleSegmentMode = false)
    (h : generateNormal d o vc = .ok script)
    (hall : ∀ s ∈ d.segments, shouldEmit o s.cond = true → s.allocSections ≠ [])
    (hw : d.settings.discardWildcardSection = true)
    (defsyms : List (Str × Nat)) (i : InSec) (hi : i ∈ objs) :
    (∃ p ∈ (link objs defsyms script).placed, p.inp = i) ∨ i ∈ (link objs defsyms script).discarded := by
  obtain ⟨ls, em, hsegs, rfl⟩ := (generateNormal_ok hmulti).1 h
  exact accounted_core objs { d := d, o := o } rfl vc d.segments ls em _ hsegs hall hw defsyms i hi

/-- the same for the main script of partial mode (the object table being the partial objects). -/
theorem final_placed_or_discarded_partial (objs : List InSec) (d : Document) (o : Opts) (vc : Bool) (out : PartialOut)
    (h : generatePartial d o vc = .ok out)
    (hall : ∀ s ∈ d.segments, shouldEmit o s.cond = true → s.allocSections ≠ [])
    (hw : d.settings.discardWildcardSection = true)
    (defsyms : List (Str × Nat)) (i : InSec) (hi : i ∈ objs) :
    (∃ p ∈ (link objs defsyms out.main).placed, p.inp = i) ∨ i ∈ (link objs defsyms out.main).discarded := by
  obtain ⟨folder, ls, emitted, _, hsegs, hmain⟩ := C03.partial_main_shape d o vc out h
  rw [hmain]
  exact accounted_core objs (C03.partialCx d o) rfl vc _ ls emitted _ hsegs (C03.partialSegs_alloc d o folder hall) hw defsyms i hi

/-- the hypotheses are met: with an input section nobody lists (`a.o(.junk)`) and one the denylist names
(`b.o(.reginfo)`), the image of the example document of `Props/Example.lean` has four placed and two discarded input sections. -/
example : (match generateNormal C04.exDoc C04.exOpts false with
    | .ok script =>
      let objs := C04.exObjs ++ [⟨c!"a.o", none, c!".junk", 4, 4⟩, ⟨c!"b.o", none, c!".reginfo", 24, 4⟩]
      decide (C04.exDoc.settings.discardWildcardSection = true)
      && decide ((link objs [] script).placed.length = 4) && decide ((link objs [] script).discarded.length = 2)
    | .error _ => false) = true := by decide +kernel

end Slinky.C18
