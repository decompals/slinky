/-
  C17 in the image `Ld.link` returns: the value of `_gp`. A segment's `gp_info` writes `_gp = . + <offset>` in front of
  the start symbol of the group of its section, behind the group's start alignments: in the image `_gp` is the value of
  that start symbol plus the offset (32-bit), when the script assigns `_gp` and that start symbol once (no
  `hardcoded_gp_value`, one `gp_info`). `C05.group_cut` reaches the group, `group_gp_image` gives the value there.
-/
import Props.C05Final
namespace Slinky.C17
open Slinky W Ld

theorem gp_assigned (cx : Ctx) (seg : Segment) (sec : Str) (emitted : List Line) (hsy : cx.emitSecSyms = true)
    (gp : GpInfo) (hgp : seg.gpInfo = some gp) (hem : shouldEmit cx.o gp.cond = true) (hsec : gp.sect = sec) :
    1 ≤ assignCount c!"_gp" (C05.groupOf cx seg sec emitted) := by
  unfold C05.groupOf
  rw [groupStart_eq cx seg sec hsy]
  have hgl : gpLine cx seg sec = [.assign c!"_gp" (.dotPlus (toHexI32 gp.offset)) gp.provide gp.hidden false] := by
    unfold gpLine; rw [hgp]; simp [hem, hsec]
  rw [hgl]
  exact assignCount_pos (l := .assign c!"_gp" (.dotPlus (toHexI32 gp.offset)) gp.provide gp.hidden false) (by simp) (by simp [symOf])

theorem gp_value_main (objs : List InSec) {cx : Ctx} {segs : List Segment} {script : List Line}
    (hS : MainScript cx segs script) (defsyms : List (Str × Nat))
    (pre post : List Segment) (seg : Segment) (hsplit : segs = pre ++ seg :: post)
    (hinc : shouldEmit cx.o seg.cond = true)
    (nl : Bool) (s1 : List Str) (sec : Str) (s2 : List Str)
    (hs : (if nl then seg.noloadSections else seg.allocSections) = s1 ++ sec :: s2)
    (gp : GpInfo) (hgp : seg.gpInfo = some gp) (hgem : shouldEmit cx.o gp.cond = true) (hgsec : gp.sect = sec)
    (off : Nat) (hoff : parseHex (toHexI32 gp.offset) = some off)
    (hc1 : assignCount (cx.d.settings.style.secStart seg.name sec) script ≤ 1)
    (hc2 : assignCount c!"_gp" script ≤ 1) :
    ∃ s : Nat,
      (link objs defsyms script).sym (cx.d.settings.style.secStart seg.name sec) = some s ∧
      (link objs defsyms script).sym c!"_gp" = some ((s + off) % M32) := by
  obtain ⟨emittedG, B, c, st3, hem, hin, himg, hcnt⟩ := C05.group_cut objs hS defsyms pre post seg hsplit hinc nl s1 sec s2 hs
  obtain ⟨a1, _, _⟩ := C05.group_assigns cx seg sec emittedG hS.syms
  have a2 := gp_assigned cx seg sec emittedG hS.syms gp hgp hgem hgsec
  obtain ⟨sv, ev, new, hG⟩ := group_run objs cx seg sec hS.syms emittedG hem c st3 hin B
  have hgpv := group_gp_image objs cx seg sec hS.syms emittedG hem gp hgp hgem hgsec off hoff c st3 hin B
  rw [← hG.start] at hgpv
  rw [himg]
  exact ⟨sv, Once.image ⟨a1, fun _ => hG.startSym⟩ objs B (Nat.le_trans (hcnt _) hc1),
    Once.image ⟨a2, fun _ => hgpv⟩ objs B (Nat.le_trans (hcnt _) hc2)⟩

/-- `_gp` in the image, for any writer context and any statements behind the segments. -/
theorem gp_value_core (objs : List InSec) (cx : Ctx) (hsy : cx.emitSecSyms = true) (vc : Bool)
    (segs : List Segment) (ls : List Line) (emitted : List Str) (T : List Line)
    (hsegs : addSegments cx [] segs = .ok (ls, emitted))
    (hall : ∀ s ∈ segs, shouldEmit cx.o s.cond = true → s.allocSections ≠ [])
    (defsyms : List (Str × Nat))
    (pre post : List Segment) (seg : Segment) (hsplit : segs = pre ++ seg :: post)
    (hinc : shouldEmit cx.o seg.cond = true)
    (nl : Bool) (s1 : List Str) (sec : Str) (s2 : List Str)
    (hs : (if nl then seg.noloadSections else seg.allocSections) = s1 ++ sec :: s2)
    (gp : GpInfo) (hgp : seg.gpInfo = some gp) (hgem : shouldEmit cx.o gp.cond = true) (hgsec : gp.sect = sec)
    (off : Nat) (hoff : parseHex (toHexI32 gp.offset) = some off)
    (hc1 : assignCount (cx.d.settings.style.secStart seg.name sec) (versionComment vc ++ (beginSections cx ++ ls ++ T)) ≤ 1)
    (hc2 : assignCount c!"_gp" (versionComment vc ++ (beginSections cx ++ ls ++ T)) ≤ 1) :
    ∃ s : Nat,
      (link objs defsyms (versionComment vc ++ (beginSections cx ++ ls ++ T))).sym (cx.d.settings.style.secStart seg.name sec) = some s ∧
      (link objs defsyms (versionComment vc ++ (beginSections cx ++ ls ++ T))).sym c!"_gp" = some ((s + off) % M32) :=
  gp_value_main objs (MainScript.core cx hsy vc segs ls emitted T hsegs hall) defsyms pre post seg hsplit hinc nl s1 sec s2 hs
    gp hgp hgem hgsec off hoff hc1 hc2

/-- **C17 in the linked image, for the whole ordinary script of a document: the value of `_gp`.** -/
theorem final_gp_value (objs : List InSec) (d : Document) (o : Opts) (vc : Bool) (script : List Line)
    (hmulti : d.settings.singleSegmentMode = false)
    (h : generateNormal d o vc = .ok script)
    (hall : ∀ s ∈ d.segments, shouldEmit o s.cond = true → s.allocSections ≠ [])
    (defsyms : List (Str × Nat))
    (pre post : List Segment) (seg : Segment) (hsplit : d.segments = pre ++ seg :: post)
    (hinc : shouldEmit o seg.cond = true)
    (nl : Bool) (s1 : List Str) (sec : Str) (s2 : List Str)
    (hs : (if nl then seg.noloadSections else seg.allocSections) = s1 ++ sec :: s2)
    (gp : GpInfo) (hgp : seg.gpInfo = some gp) (hgem : shouldEmit o gp.cond = true) (hgsec : gp.sect = sec)
    (off : Nat) (hoff : parseHex (toHexI32 gp.offset) = some off)
    (hc1 : assignCount (d.settings.style.secStart seg.name sec) script ≤ 1)
    (hc2 : assignCount c!"_gp" script ≤ 1) :
    ∃ s : Nat,
      (link objs defsyms script).sym (d.settings.style.secStart seg.name sec) = some s ∧
      (link objs defsyms script).sym c!"_gp" = some ((s + off) % M32) :=
  gp_value_main objs (MainScript.normal d o vc script hmulti h hall) defsyms pre post seg hsplit hinc nl s1 sec s2 hs
    gp hgp hgem hgsec off hoff hc1 hc2

/-- the same for the main script of partial mode. -/
theorem final_gp_value_partial (objs : List InSec) (d : Document) (o : Opts) (vc : Bool) (out : PartialOut)
    (h : generatePartial d o vc = .ok out)
    (hall : ∀ s ∈ d.segments, shouldEmit o s.cond = true → s.allocSections ≠ [])
    (defsyms : List (Str × Nat)) (folder : Str) (hfolder : d.settings.partialBuildSegmentsFolder = some folder)
    (pre post : List Segment) (seg : Segment) (hsplit : C03.partialSegs d o folder = pre ++ seg :: post)
    (nl : Bool) (s1 : List Str) (sec : Str) (s2 : List Str)
    (hs : (if nl then seg.noloadSections else seg.allocSections) = s1 ++ sec :: s2)
    (gp : GpInfo) (hgp : seg.gpInfo = some gp) (hgem : shouldEmit o gp.cond = true) (hgsec : gp.sect = sec)
    (off : Nat) (hoff : parseHex (toHexI32 gp.offset) = some off)
    (hc1 : assignCount (d.settings.style.secStart seg.name sec) out.main ≤ 1)
    (hc2 : assignCount c!"_gp" out.main ≤ 1) :
    ∃ s : Nat,
      (link objs defsyms out.main).sym (d.settings.style.secStart seg.name sec) = some s ∧
      (link objs defsyms out.main).sym c!"_gp" = some ((s + off) % M32) :=
  gp_value_main objs (MainScript.partial d o vc out h hall folder hfolder) defsyms pre post seg hsplit
    (C03.partialSegs_split_emitted hsplit) nl s1 sec s2 hs
    gp hgp hgem hgsec off hoff hc1 hc2

/-! ### the hypotheses are met, and the conclusion is about real numbers -/

def exDocG : Document :=
  { segments := [
      { name := c!"boot", fixedVram := some 0x80000000, allocSections := [c!".text", c!".data"], noloadSections := [c!".bss"],
        gpInfo := some { sect := c!".data", offset := 0x7FF0, provide := false, hidden := false, cond := {} }, files := [C04.exF c!"a.o"] }] }

/-- `_gp` is the start of the `.data` group of `boot` (behind the 20 bytes of `.text`) plus 0x7FF0; both symbols are
assigned once. -/
example : (match generateNormal exDocG C04.exOpts false with
    | .ok script =>
      decide (assignCount c!"_gp" script = 1) && decide (assignCount c!"boot_DATA_START" script = 1)
      && decide ((link C04.exObjs [] script).sym c!"boot_DATA_START" = some 0x80000014)
      && decide ((link C04.exObjs [] script).sym c!"_gp" = some 0x80008004)
    | .error _ => false) = true := by decide +kernel

end Slinky.C17
