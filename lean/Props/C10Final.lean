/-
  C10 in the image `Ld.link` returns: every emitted member of a vram class whose prologue gives the class start symbol a
  value `v` known in advance (`fixed_vram: v`; `fixed_symbol: fs` with `--defsym fs=v`) is recorded at `v`, and the class
  start symbol is `v`. That symbol is assigned once, by the prologue in front of the first emitted member: `IntroGives`
  says what the prologue computes, and `class_start_kept_gen` carries "the class has been introduced, its start symbol
  holds `v`, and the members so far are recorded at `v`" through the fold over the segments.
-/
import Props.C10
import Props.Example
import Props.MainScript
namespace Slinky.C10
open Slinky W Ld

theorem classIntro_assigns (cx : Ctx) (c : Str) (vc : VramClass) :
    1 ≤ assignCount (cx.d.settings.style.classStart c) (classIntro cx c vc) := by
  unfold classIntro
  cases vc.fixedVram <;> cases vc.fixedSymbol <;>
    exact assignCount_pos (List.mem_append_left _ List.mem_cons_self) (symOf_linkerSym _)

theorem segmentLines_cls (cx : Ctx) (seg : Segment) (cls alloc noload : List Line) :
    segmentLines cx seg cls alloc noload = cls ++ segmentLines cx seg [] alloc noload := by
  rw [segmentLines_parts, segmentLines_parts, List.nil_append]

theorem addSegment_member (cx : Ctx) (em : List Str) (seg : Segment) (a : List Line) (em1 : List Str) (c : Str)
    (h : addSegment cx em seg = .ok (a, em1)) (hem : shouldEmit cx.o seg.cond = true) (hc : seg.vramClass = some c) :
    ∃ cls alloc noload, a = segmentLines cx seg cls alloc noload ∧
      writeSegment cx seg seg.allocSections false = .ok alloc ∧ writeSegment cx seg seg.noloadSections true = .ok noload ∧
      ((c ∈ em ∧ cls = [] ∧ em1 = em) ∨
       (c ∉ em ∧ ∃ vc', findClass cx.d c = some vc' ∧ cls = classIntro cx c vc' ∧ em1 = em ++ [c])) := by
  apply addSegment_elim h
  · intro hs; rw [hem] at hs; cases hs
  · intro _ cls alloc noload hcp ha hn
    refine ⟨cls, alloc, noload, rfl, ha, hn, ?_⟩
    apply classPart_elim hcp
    · rintro he (h0 | ⟨c', vc, h1, _, h3⟩)
      · rw [hc] at h0; cases h0
      · rw [hc] at h1; cases h1; exact Or.inl ⟨h3, rfl, he⟩
    · intro c' vc h1 h2 h3 he
      rw [hc] at h1; cases h1; exact Or.inr ⟨h3, vc, h2, rfl, he⟩

/-- what the prologue of the class `c` computes: its start symbol holds `v` behind it, when the names in `reads` hold
their numbers in front of it. -/
def IntroGives (objs : List InSec) (cx : Ctx) (c : Str) (vc : VramClass) (reads : List (Str × Nat)) (v : Nat) : Prop :=
  ∀ (st : St) (k : List Line), Outside st → (∀ nv ∈ reads, lookupLast nv.1 st.syms = some (.num nv.2)) →
    lookupLast (cx.d.settings.style.classStart c) (execK objs st (classIntro cx c vc) k).syms = some (.num v)

theorem introGives_fixedVram (objs : List InSec) (cx : Ctx) (c : Str) (vc : VramClass) (v : Nat) (hfv : vc.fixedVram = some v) :
    IntroGives objs cx c vc [] v := by
  intro st k ho _
  have h := (image_class_prologue objs cx c vc st ho (fun _ => 0) k (fun _ h1 => nomatch hfv.symm.trans h1)
    (fun h1 => nomatch hfv.symm.trans h1)).2
  rwa [hfv] at h

theorem introGives_fixedSymbol (objs : List InSec) (cx : Ctx) (c : Str) (vc : VramClass) (v : Nat) (fs : Str)
    (hfn : vc.fixedVram = none) (hfsym : vc.fixedSymbol = some fs) : IntroGives objs cx c vc [(fs, v)] v := by
  intro st k ho hrd
  have h := (image_class_prologue objs cx c vc st ho (fun _ => v) k
    (fun fs' _ h2 => Option.some.inj (hfsym.symm.trans h2) ▸ hrd (fs, v) List.mem_cons_self)
    (fun _ h2 => nomatch hfsym.symm.trans h2)).2
  simp only [hfn, hfsym] at h
  exact h

theorem member_introduced (cx : Ctx) (c : Str) : ∀ (segs : List Segment) (em : List Str) (ls : List Line) (em' : List Str)
    (_ : addSegments cx em segs = .ok (ls, em')),
    (c ∈ em ∨ ∃ s ∈ segs, shouldEmit cx.o s.cond = true ∧ s.vramClass = some c) → c ∈ em' := by
  intro segs em ls em' h
  apply addSegments_induction ?_ ?_ h
  · exact fun em hm => hm.elim id fun ⟨_, hs, _⟩ => nomatch hs
  intro em seg rest a em1 b em' hadd _ ih hm
  have hiff := emitted_grows cx em em1 seg a hadd c
  apply ih
  rcases hm with hm | ⟨s, hs, hse⟩
  · exact Or.inl (hiff.2 (Or.inl hm))
  · rcases List.mem_cons.1 hs with rfl | hs
    · exact Or.inl (hiff.2 (Or.inr hse))
    · exact Or.inr ⟨s, hs, hse⟩

theorem class_start_step_gen (objs : List InSec) (cx : Ctx) (c : Str) (vc : VramClass) (v : Nat)
    (hfind : findClass cx.d c = some vc) (reads : List (Str × Nat)) (hI : IntroGives objs cx c vc reads v)
    (em : List Str) (seg : Segment) (a : List Line) (em1 : List Str) (hadd : addSegment cx em seg = .ok (a, em1))
    (st : St) (ho : Outside st) (k : List Line) (hrd : ∀ nv ∈ reads, lookupLast nv.1 st.syms = some (.num nv.2))
    (hinv : c ∈ em → lookupLast (cx.d.settings.style.classStart c) st.syms = some (.num v))
    (hc1 : assignCount (cx.d.settings.style.classStart c) a ≤ 1)
    (hc0 : c ∈ em → assignCount (cx.d.settings.style.classStart c) a = 0) :
    (c ∈ em1 → lookupLast (cx.d.settings.style.classStart c) (execK objs st a k).syms = some (.num v)) ∧
    (c ∈ em1 → c ∉ em → 1 ≤ assignCount (cx.d.settings.style.classStart c) a) ∧
    (∀ r, lookupLast romPos st.syms = some (.num r) → shouldEmit cx.o seg.cond = true → seg.vramClass = some c →
      segAddr cx seg = some (cx.d.settings.style.classStart c) → seg.allocSections ≠ [] → cx.emitSecSyms = true →
      ∃ os ∈ (execK objs st a k).secs, os.name = c!"." ++ seg.name ∧ os.noload = false ∧ os.addr = v) := by
  by_cases hold : c ∈ em
  · -- introduced before: these statements do not assign the symbol, and a member stands behind no prologue
    refine ⟨fun _ => by rw [execK_keeps_count objs _ _ st k (hc0 hold)]; exact hinv hold, fun _ hn => absurd hold hn,
      fun r hr hem hc hsa hne hsy => ?_⟩
    obtain ⟨cls, alloc, noload, hls, ha, hn, ⟨_, hcls, _⟩ | ⟨h, _⟩⟩ := addSegment_member cx em seg a em1 c hadd hem hc
    · rw [hls, hcls]
      obtain ⟨aE, al, lmaV, hsec⟩ := member_starts_at_class objs cx seg alloc noload c hsa ha hn hne hsy st ho r hr v (hinv hold) k
      exact ⟨_, hsec, rfl, rfl, rfl⟩
    · exact absurd hold h
  by_cases hin1 : c ∈ em1
  · -- introduced here: the prologue gives `v`, the rest of the segment does not assign the symbol
    obtain ⟨hem, hc⟩ := ((emitted_grows cx em em1 seg a hadd c).1 hin1).resolve_left hold
    obtain ⟨cls, alloc, noload, hls, ha, hn, ⟨h, _⟩ | ⟨_, vc', hf', hcls, _⟩⟩ := addSegment_member cx em seg a em1 c hadd hem hc
    · exact absurd h hold
    obtain rfl := Option.some.inj (hfind.symm.trans hf')
    have hA := classIntro_assigns cx c vc
    rw [hls, hcls, segmentLines_cls, assignCount_append] at hc1 ⊢
    rw [execK_append]
    have hv := hI st (segmentLines cx seg [] alloc noload ++ k) ho hrd
    refine ⟨fun _ => ?_, fun _ _ => by omega, fun r hr _ _ hsa hne hsy => ?_⟩
    · rw [execK_keeps_count objs _ _ _ k (by omega)]; exact hv
    · obtain ⟨aE, al, lmaV, hsec⟩ := member_starts_at_class objs cx seg alloc noload c hsa ha hn hne hsy _
        (class_intro_frame objs cx c vc st ho _).1 r
        ((execK_keeps_assigned objs (not_mem_assigned.2 fun l hl => (classIntro_outer cx c vc l hl).2) st _).trans hr) v hv k
      exact ⟨_, hsec, rfl, rfl, rfl⟩
  · exact ⟨fun hm => absurd hm hin1, fun hm _ => absurd hm hin1,
      fun _ _ hem hc => absurd ((emitted_grows cx em em1 seg a hadd c).2 (Or.inr ⟨hem, hc⟩)) hin1⟩

/-- **behind any number of segments the start symbol of a class that has been introduced holds the value `v` its prologue
gives it, and every emitted member placed by the class alone is recorded at `v`** — when the statements of these segments
assign that symbol at most once, not at all if the class was introduced before them, and never a name the prologue reads. -/
theorem class_start_kept_gen (objs : List InSec) (cx : Ctx) (hsy : cx.emitSecSyms = true) (c : Str) (vc : VramClass) (v : Nat)
    (hfind : findClass cx.d c = some vc) (reads : List (Str × Nat)) (hI : IntroGives objs cx c vc reads v)
    {segs : List Segment} {em : List Str} {ls : List Line} {em' : List Str} (h : addSegments cx em segs = .ok (ls, em')) :
    (∀ s ∈ segs, shouldEmit cx.o s.cond = true → s.allocSections ≠ []) →
      ∀ (st : St), Between st → ∀ (k : List Line),
      (c ∈ em → lookupLast (cx.d.settings.style.classStart c) st.syms = some (.num v)) →
      assignCount (cx.d.settings.style.classStart c) ls ≤ 1 →
      (c ∈ em → assignCount (cx.d.settings.style.classStart c) ls = 0) →
      (∀ nv ∈ reads, lookupLast nv.1 st.syms = some (.num nv.2) ∧ assignCount nv.1 ls = 0) →
      Between (execK objs st ls k) ∧
        (c ∈ em' → lookupLast (cx.d.settings.style.classStart c) (execK objs st ls k).syms = some (.num v)) ∧
        (c ∈ em' → c ∉ em → 1 ≤ assignCount (cx.d.settings.style.classStart c) ls) ∧
        (∀ s ∈ segs, shouldEmit cx.o s.cond = true → s.vramClass = some c →
          segAddr cx s = some (cx.d.settings.style.classStart c) →
          ∃ os ∈ (execK objs st ls k).secs, os.name = c!"." ++ s.name ∧ os.noload = false ∧ os.addr = v) := by
  apply addSegments_induction ?_ ?_ h
  · exact fun em _ st hb k hinv _ _ _ => ⟨hb, hinv, fun hm hn => absurd hm hn, fun _ hs => nomatch hs⟩
  intro em seg rest a em1 b em' hadd _ ih hall st hb k hinv hc1 hc0 hrd
  rw [assignCount_append] at hc1 hc0
  obtain ⟨hinv1, hfirst, hsec⟩ := class_start_step_gen objs cx c vc v hfind reads hI em seg a em1 hadd st hb.out (b ++ k)
    (fun nv h => (hrd nv h).1) hinv (Nat.le_trans (Nat.le_add_right _ _) hc1) (fun hm => (Nat.add_eq_zero_iff.1 (hc0 hm)).1)
  have hb1 := addSegment_between objs cx hsy hadd (hall seg List.mem_cons_self) st hb (b ++ k)
  have hb0 : c ∈ em1 → assignCount (cx.d.settings.style.classStart c) b = 0 := by
    intro hin1
    by_cases hold : c ∈ em
    · exact (Nat.add_eq_zero_iff.1 (hc0 hold)).2
    · have := hfirst hin1 hold; omega
  obtain ⟨hb', hi', hcnt', hsecs'⟩ := ih (fun s hs => hall s (List.mem_cons_of_mem _ hs)) _ hb1 k hinv1
    (Nat.le_trans (Nat.le_add_left _ _) hc1) hb0 (fun nv h => by
      obtain ⟨h1, h2⟩ := Nat.add_eq_zero_iff.1 ((assignCount_append _ _ _).symm.trans (hrd nv h).2)
      exact ⟨(execK_keeps_count objs _ a st (b ++ k) h1).trans (hrd nv h).1, h2⟩)
  rw [execK_append]
  refine ⟨hb', hi', fun hm hn => ?_, fun s hs hem hc hsa => ?_⟩
  · rw [assignCount_append]
    by_cases hin1 : c ∈ em1
    · exact Nat.le_trans (hfirst hin1 hn) (Nat.le_add_right _ _)
    · exact Nat.le_trans (hcnt' hm hin1) (Nat.le_add_left _ _)
  · rcases List.mem_cons.1 hs with rfl | hs
    · obtain ⟨r, hr⟩ := hb.rom
      obtain ⟨os, hos, h3⟩ := hsec r hr hem hc hsa (hall _ List.mem_cons_self hem) hsy
      exact ⟨os, execK_sec_kept objs _ b k os hos, h3⟩
    · exact hsecs' s hs hem hc hsa

/-- **the members of a class in the image of a main script**: the prologue of the class gives its start symbol `v` from
names (`reads`) that `--defsym` defines and the script never assigns. -/
theorem class_member_main (objs : List InSec) {cx : Ctx} {segs : List Segment} {script : List Line}
    (hS : MainScript cx segs script) (defsyms : List (Str × Nat))
    (pre post : List Segment) (seg : Segment) (hsplit : segs = pre ++ seg :: post)
    (hinc : shouldEmit cx.o seg.cond = true)
    (c : Str) (vcl : VramClass) (v : Nat)
    (hfv : seg.fixedVram = none) (hfs : seg.fixedSymbol = none) (hfol : seg.followsSegment = none) (hcl : seg.vramClass = some c)
    (hfind : findClass cx.d c = some vcl) (reads : List (Str × Nat)) (hI : IntroGives objs cx c vcl reads v)
    (hrd : ∀ nv ∈ reads, lookupLast nv.1 (defsyms.map fun kv => (kv.1, Val.num kv.2)) = some (.num nv.2) ∧
      assignCount nv.1 script = 0)
    (hcnt : assignCount (cx.d.settings.style.classStart c) script ≤ 1) :
    ∃ os ∈ (link objs defsyms script).secs, os.name = c!"." ++ seg.name ∧ os.noload = false ∧ os.addr = v ∧
      (link objs defsyms script).sym (cx.d.settings.style.classStart c) = some v := by
  obtain ⟨ls, emitted, T, st1, hsegs, f⟩ := hS.frame objs defsyms
  have hm : seg ∈ segs := hsplit ▸ List.mem_append_right _ List.mem_cons_self
  rw [f.count] at hcnt
  obtain ⟨_, hval, hlow, hsec⟩ := class_start_kept_gen objs cx hS.syms c vcl v hfind reads hI hsegs hS.alloc st1 f.between T
    (fun hm => nomatch hm) (part_le hcnt) (fun hm => nomatch hm) (frame_reads f hrd)
  have hin := member_introduced cx c segs [] ls emitted hsegs (Or.inr ⟨seg, hm, hinc, hcl⟩)
  obtain ⟨os, hos, h1, h2, h3⟩ := hsec seg hm hinc hcl (member_statements cx seg c hcl hfv hfs hfol [] [] []).1
  rw [f.image]
  exact ⟨os, image_sec_kept objs _ T os hos, h1, h2, h3,
    image_sym_kept objs _ T _ v (rest_zero hcnt (hlow hin fun h => nomatch h)) (hval hin)⟩

/-- **C10 in the linked image, for the whole ordinary script: the members of a class with `fixed_vram`.** An emitted
segment placed by its `vram_class` alone, the class having `fixed_vram: v` and its start symbol being assigned once in
the script, has `.<segment>` recorded at `v`, and the class start symbol is `v` there — whether the segment is the
first emitted member of the class (the prologue stands in front of it) or a later one. -/
theorem final_class_fixed_vram (objs : List InSec) (d : Document) (o : Opts) (vc : Bool) (script : List Line)
    (hmulti : d.settings.singleSegmentMode = false)
    (h : generateNormal d o vc = .ok script)
    (hall : ∀ s ∈ d.segments, shouldEmit o s.cond = true → s.allocSections ≠ [])
    (defsyms : List (Str × Nat))
    (pre post : List Segment) (seg : Segment) (hsplit : d.segments = pre ++ seg :: post)
    (hinc : shouldEmit o seg.cond = true)
    (c : Str) (vcl : VramClass) (v : Nat)
    (hfv : seg.fixedVram = none) (hfs : seg.fixedSymbol = none) (hfol : seg.followsSegment = none) (hcl : seg.vramClass = some c)
    (hfind : findClass d c = some vcl) (hcv : vcl.fixedVram = some v)
    (hcnt : assignCount (d.settings.style.classStart c) script ≤ 1) :
    ∃ os ∈ (link objs defsyms script).secs, os.name = c!"." ++ seg.name ∧ os.noload = false ∧ os.addr = v ∧
      (link objs defsyms script).sym (d.settings.style.classStart c) = some v :=
  class_member_main objs (MainScript.normal d o vc script hmulti h hall) defsyms pre post seg hsplit hinc c vcl v hfv hfs hfol hcl
    hfind [] (introGives_fixedVram objs _ c vcl v hcv) (fun _ h => nomatch h) hcnt

/-- `final_class_fixed_vram` for the main script of partial mode. -/
theorem final_class_fixed_vram_partial (objs : List InSec) (d : Document) (o : Opts) (vc : Bool) (out : PartialOut)
    (h : generatePartial d o vc = .ok out)
    (hall : ∀ s ∈ d.segments, shouldEmit o s.cond = true → s.allocSections ≠ [])
    (defsyms : List (Str × Nat)) (folder : Str) (hfolder : d.settings.partialBuildSegmentsFolder = some folder)
    (pre post : List Segment) (seg : Segment) (hsplit : C03.partialSegs d o folder = pre ++ seg :: post)
    (c : Str) (vcl : VramClass) (v : Nat)
    (hfv : seg.fixedVram = none) (hfs : seg.fixedSymbol = none) (hfol : seg.followsSegment = none) (hcl : seg.vramClass = some c)
    (hfind : findClass d c = some vcl) (hcv : vcl.fixedVram = some v)
    (hcnt : assignCount (d.settings.style.classStart c) out.main ≤ 1) :
    ∃ os ∈ (link objs defsyms out.main).secs, os.name = c!"." ++ seg.name ∧ os.noload = false ∧ os.addr = v ∧
      (link objs defsyms out.main).sym (d.settings.style.classStart c) = some v :=
  class_member_main objs (MainScript.partial d o vc out h hall folder hfolder) defsyms pre post seg hsplit
    (C03.partialSegs_split_emitted hsplit) c vcl v hfv hfs hfol hcl
    hfind [] (introGives_fixedVram objs _ c vcl v hcv) (fun _ h => nomatch h) hcnt

/-! ### the hypotheses are met, and the conclusion is about real numbers -/

def exDocC : Document :=
  { vramClasses := [{ name := c!"ovl", fixedVram := some 0x80100000 }],
    segments := [
      { name := c!"boot", fixedVram := some 0x80000000, allocSections := [c!".text", c!".data"], noloadSections := [c!".bss"],
        files := [C04.exF c!"a.o"] },
      { name := c!"ovl_a", vramClass := some c!"ovl", allocSections := [c!".text", c!".data"], noloadSections := [c!".bss"],
        files := [C04.exF c!"b.o"] },
      { name := c!"ovl_b", vramClass := some c!"ovl", allocSections := [c!".text", c!".data"], noloadSections := [c!".bss"],
        files := [C04.exF c!"a.o"] }] }

/-- the image of `exDocC` over `C04.exObjs`, which the examples about the class `ovl` read (`exImageC_eq`). -/
def exImageC : Image :=
  { emptied := false,
    syms := [(c!"__romPos", some 33), (c!"boot_ROM_START", some 0), (c!"boot_VRAM", some 0x80000000),
     (c!"boot_alloc_VRAM", some 0), (c!"boot_TEXT_START", some 0x80000000), (c!"boot_TEXT_END", some 0x80000014),
     (c!"boot_TEXT_SIZE", some 20), (c!"boot_DATA_START", some 0x80000014), (c!"boot_DATA_END", some 0x80000014),
     (c!"boot_DATA_SIZE", some 0), (c!"boot_alloc_VRAM_END", some 0x80000014),
     (c!"boot_alloc_VRAM_SIZE", some 0x80000014), (c!"boot_noload_VRAM", some 0x80000014),
     (c!"boot_BSS_START", some 0x80000018), (c!"boot_BSS_END", some 0x8000007C), (c!"boot_BSS_SIZE", some 100),
     (c!"boot_noload_VRAM_END", some 0x8000007C), (c!"boot_noload_VRAM_SIZE", some 104),
     (c!"boot_VRAM_END", some 0x8000007C), (c!"boot_VRAM_SIZE", some 124), (c!"boot_ROM_END", some 20),
     (c!"boot_ROM_SIZE", some 20), (c!"ovl_VRAM_CLASS_START", some 0x80100000),
     (c!"ovl_VRAM_CLASS_END", some 0x8010000D), (c!"ovl_a_ROM_START", some 20), (c!"ovl_a_VRAM", some 0x80100000),
     (c!"ovl_a_alloc_VRAM", some 0x8000007C), (c!"ovl_a_TEXT_START", some 0x80100000),
     (c!"ovl_a_TEXT_END", some 0x80100008), (c!"ovl_a_TEXT_SIZE", some 8), (c!"ovl_a_DATA_START", some 0x80100008),
     (c!"ovl_a_DATA_END", some 0x8010000D), (c!"ovl_a_DATA_SIZE", some 5), (c!"ovl_a_alloc_VRAM_END", some 0x8010000D),
     (c!"ovl_a_alloc_VRAM_SIZE", some 1048465), (c!"ovl_a_noload_VRAM", some 0x8010000D),
     (c!"ovl_a_BSS_START", some 0x8010000D), (c!"ovl_a_BSS_END", some 0x8010000D), (c!"ovl_a_BSS_SIZE", some 0),
     (c!"ovl_a_noload_VRAM_END", some 0x8010000D), (c!"ovl_a_noload_VRAM_SIZE", some 0),
     (c!"ovl_a_VRAM_END", some 0x8010000D), (c!"ovl_a_VRAM_SIZE", some 13), (c!"ovl_a_ROM_END", some 33),
     (c!"ovl_a_ROM_SIZE", some 13), (c!"ovl_b_ROM_START", some 33), (c!"ovl_b_VRAM", some 0x80100000),
     (c!"ovl_b_alloc_VRAM", some 0x8010000D), (c!"ovl_b_TEXT_START", some 0x80100000),
     (c!"ovl_b_TEXT_END", some 0x80100000), (c!"ovl_b_TEXT_SIZE", some 0), (c!"ovl_b_DATA_START", some 0x80100000),
     (c!"ovl_b_DATA_END", some 0x80100000), (c!"ovl_b_DATA_SIZE", some 0), (c!"ovl_b_alloc_VRAM_END", some 0x80100000),
     (c!"ovl_b_alloc_VRAM_SIZE", some 0xFFFFFFF3), (c!"ovl_b_noload_VRAM", some 0x80100000),
     (c!"ovl_b_BSS_START", some 0x80100000), (c!"ovl_b_BSS_END", some 0x80100000), (c!"ovl_b_BSS_SIZE", some 0),
     (c!"ovl_b_noload_VRAM_END", some 0x80100000), (c!"ovl_b_noload_VRAM_SIZE", some 0),
     (c!"ovl_b_VRAM_END", some 0x80100000), (c!"ovl_b_VRAM_SIZE", some 0), (c!"ovl_b_ROM_END", some 33),
     (c!"ovl_b_ROM_SIZE", some 0), (c!"ovl_VRAM_CLASS_SIZE", some 13)],
    secs := [⟨c!".boot", 0x80000000, 20, some 0, false, 4⟩, ⟨c!".boot.noload", 0x80000018, 100, none, true, 8⟩,
     ⟨c!".ovl_a", 0x80100000, 13, some 20, false, 4⟩, ⟨c!".ovl_a.noload", 0x8010000D, 0, none, true, 1⟩,
     ⟨c!".ovl_b", 0x80100000, 0, some 33, false, 1⟩, ⟨c!".ovl_b.noload", 0x80100000, 0, none, true, 1⟩,
     ⟨c!".symtab", 0, 0, none, false, 1⟩, ⟨c!".strtab", 0, 0, none, false, 1⟩, ⟨c!".shstrtab", 0, 0, none, false, 1⟩],
    placed := [⟨⟨c!"a.o", none, c!".text", 20, 4⟩, 0x80000000, c!".boot"⟩,
     ⟨⟨c!"a.o", none, c!".bss", 100, 8⟩, 0x80000018, c!".boot.noload"⟩,
     ⟨⟨c!"b.o", none, c!".text", 8, 4⟩, 0x80100000, c!".ovl_a"⟩,
     ⟨⟨c!"b.o", none, c!".data", 5, 1⟩, 0x80100008, c!".ovl_a"⟩],
    discarded := [] }

theorem exImageC_eq : (generateNormal exDocC C04.exOpts false).toOption.map (link C04.exObjs []) = some exImageC := by
  decide +kernel

/-- both members of the class `ovl` (`fixed_vram: 0x80100000`) are recorded at that address, the first behind the class
prologue and the second without one; the script assigns the class start symbol once. -/
example : (match generateNormal exDocC C04.exOpts false with
    | .ok script =>
      decide (assignCount c!"ovl_VRAM_CLASS_START" script = 1)
      && decide ((link C04.exObjs [] script).sym c!"ovl_VRAM_CLASS_START" = some 0x80100000)
      && (link C04.exObjs [] script).secs.any (fun os => os.name = c!".ovl_a" && os.addr = 0x80100000 && !os.noload)
      && (link C04.exObjs [] script).secs.any (fun os => os.name = c!".ovl_b" && os.addr = 0x80100000 && !os.noload)
    | .error _ => false) = true := by decide_with exImageC_eq

/-! ### special cases named in DESIGN.md or proved for their own sake; no proof uses them -/

/-- what `add_segment` does, by cases: nothing (excluded), or the statements of the segment behind a class
prologue that is empty (no class, or a class introduced before) or the prologue of a class introduced here. -/
def AddSegCases (cx : Ctx) (em : List Str) (seg : Segment) (a : List Line) (em1 : List Str) : Prop :=
  (shouldEmit cx.o seg.cond = false ∧ a = [] ∧ em1 = em) ∨
  (shouldEmit cx.o seg.cond = true ∧ ∃ cls alloc noload, a = segmentLines cx seg cls alloc noload ∧
    writeSegment cx seg seg.allocSections false = .ok alloc ∧ writeSegment cx seg seg.noloadSections true = .ok noload ∧
    ((cls = [] ∧ em1 = em) ∨
     (∃ cname vc', seg.vramClass = some cname ∧ findClass cx.d cname = some vc' ∧ cname ∉ em ∧
        cls = classIntro cx cname vc' ∧ em1 = em ++ [cname])))

theorem addSegment_cases (cx : Ctx) (em : List Str) (seg : Segment) (a : List Line) (em1 : List Str)
    (h : addSegment cx em seg = .ok (a, em1)) : AddSegCases cx em seg a em1 :=
  (addSegment_ok.1 h).imp id fun ⟨hs, cls, alloc, noload, hcp, ha, hn, e⟩ =>
    ⟨hs, cls, alloc, noload, e, ha, hn, (classPart_ok.1 hcp).imp (fun h => ⟨h.1, h.2.1⟩) id⟩

theorem classPart_of_class (cx : Ctx) (em : List Str) (seg : Segment) (c : Str) (vcl : VramClass)
    (hcl : seg.vramClass = some c) (hfind : findClass cx.d c = some vcl) :
    classPart cx em seg = .ok (if c ∈ em then ([], em) else (classIntro cx c vcl, em ++ [c])) := by
  unfold classPart
  simp only [hcl, hfind]
  split <;> rfl

/-- `class_start_step_gen` for a class with `fixed_vram: v`. -/
theorem class_start_step (objs : List InSec) (cx : Ctx) (c : Str) (vc : VramClass) (v : Nat)
    (hfind : findClass cx.d c = some vc) (hfv : vc.fixedVram = some v)
    (em : List Str) (seg : Segment) (a : List Line) (em1 : List Str) (hadd : addSegment cx em seg = .ok (a, em1))
    (st : St) (ho : Outside st) (k : List Line)
    (hinv : c ∈ em → lookupLast (cx.d.settings.style.classStart c) st.syms = some (.num v))
    (hc1 : assignCount (cx.d.settings.style.classStart c) a ≤ 1)
    (hc0 : c ∈ em → assignCount (cx.d.settings.style.classStart c) a = 0) :
    (c ∈ em1 → lookupLast (cx.d.settings.style.classStart c) (execK objs st a k).syms = some (.num v)) ∧
    (c ∈ em1 → c ∉ em → 1 ≤ assignCount (cx.d.settings.style.classStart c) a) :=
  have h := class_start_step_gen objs cx c vc v hfind [] (introGives_fixedVram objs cx c vc v hfv) em seg a em1 hadd st ho k
    (fun _ h => nomatch h) hinv hc1 hc0
  ⟨h.1, h.2.1⟩

/-- `class_start_kept_gen` for a class with `fixed_vram: v`, without the members. -/
theorem class_start_kept (objs : List InSec) (cx : Ctx) (hsy : cx.emitSecSyms = true) (c : Str) (vc : VramClass) (v : Nat)
    (hfind : findClass cx.d c = some vc) (hfv : vc.fixedVram = some v) :
    ∀ (segs : List Segment) (em : List Str) (ls : List Line) (em' : List Str)
      (_ : addSegments cx em segs = .ok (ls, em'))
      (_ : ∀ s ∈ segs, shouldEmit cx.o s.cond = true → s.allocSections ≠ [])
      (st : St) (_ : Outside st) (r : Nat) (_ : lookupLast Ld.romPos st.syms = some (.num r)) (k : List Line)
      (_ : c ∈ em → lookupLast (cx.d.settings.style.classStart c) st.syms = some (.num v))
      (_ : assignCount (cx.d.settings.style.classStart c) ls ≤ 1)
      (_ : c ∈ em → assignCount (cx.d.settings.style.classStart c) ls = 0),
      ∃ (st' : St) (r' : Nat), st' = execK objs st ls k ∧ Outside st' ∧ lookupLast Ld.romPos st'.syms = some (.num r') ∧
        (c ∈ em' → lookupLast (cx.d.settings.style.classStart c) st'.syms = some (.num v)) ∧
        (c ∈ em' → c ∉ em → 1 ≤ assignCount (cx.d.settings.style.classStart c) ls) := by
  intro segs em ls em' h hall st ho r hr k hinv hc1 hc0
  obtain ⟨hb, h1, h2, _⟩ := class_start_kept_gen objs cx hsy c vc v hfind [] (introGives_fixedVram objs cx c vc v hfv)
    h hall st ⟨ho, r, hr⟩ k hinv hc1 hc0 (fun _ h => nomatch h)
  obtain ⟨r', hr'⟩ := hb.rom
  exact ⟨_, r', rfl, hb.out, hr', h1, h2⟩

end Slinky.C10
