/-
  Props.ImageDoc — the linker semantics applied to everything `add_segment` writes for one
  emitted segment (`segment_run`, whose conclusion is the record `SegImage`), and to the fold over
  the segments of a document: an invariant carried over one emitted segment at a time
  (`segments_run`), and the run cut at one segment, which is reached between output sections
  (`segments_cut`).
-/
import Props.ImageSegment
namespace Slinky
namespace Ld
open W

theorem step_outer_alignDot (objs : List InSec) (st : St) (ho : Outside st) (a : Nat) (r : List Line) :
    step objs st (alignSymbol c!"." a) r = { st with dot := Ld.alignUp st.dot a } := by
  unfold alignSymbol
  simp [step, ho.nd, eval, base, relDot, ho.cur]

theorem step_outer_alignSym (objs : List InSec) (st : St) (ho : Outside st) (s : Str) (hs : s ≠ c!".") (v a : Nat)
    (hv : lookupLast s st.syms = some (.num v)) (r : List Line) :
    step objs st (alignSymbol s a) r = { st with syms := st.syms ++ [(s, Val.num (Ld.alignUp v a))] } := by
  unfold alignSymbol
  rw [step_assign_sym objs hs ho.nd]
  simp [eval, hs, operand_num st s v hs hv]

theorem step_outer_addSize (objs : List InSec) (st : St) (ho : Outside st) (s : Str) (hs : s ≠ c!".") (v : Nat)
    (hv : lookupLast s st.syms = some (.num v)) (sec : Str) (r : List Line) :
    step objs st (.addAssign s (.sizeofE sec)) r
      = { st with syms := st.syms ++ [(s, Val.num (v + ((findSec st sec).map (·.size) |>.getD 0)))] } := by
  simp [step, ho.nd, hs, operand_num st s v hs hv, eval, setSym]

/-- `__romPos = ALIGN(__romPos, a); . = ALIGN(., a);` for a requested alignment: what `add_segment` writes for
`segment_start_align` in front of a segment and for `segment_end_align` behind its output sections. -/
def alignPair (o : Option Nat) : List Line :=
  match o with
  | some a => [alignSymbol c!"__romPos" a, alignSymbol c!"." a]
  | none => []

theorem alignPair_simple (o : Option Nat) : ∀ l ∈ alignPair o, simple l = true := by
  cases o <;> exact simple_all rfl

theorem mem_assigned_alignPair {o : Option Nat} {n : Str} (h : n ∈ assigned (alignPair o)) : n = romPos := by
  cases o with
  | none => nomatch h
  | some a => exact List.mem_singleton.1 h

theorem seg_aligns (objs : List InSec) (o : Option Nat) (st : St) (ho : Outside st) (r : Nat)
    (hr : lookupLast romPos st.syms = some (.num r)) (k : List Line) :
    ∃ st', st' = execK objs st (alignPair o) k ∧
      Outside st' ∧ st'.dot = alignO o st.dot ∧ lookupLast romPos st'.syms = some (.num (alignO o r)) ∧
      st'.secs = st.secs ∧ st'.placed = st.placed ∧
      (∀ n, n ≠ romPos → lookupLast n st'.syms = lookupLast n st.syms) := by
  cases o with
  | none => exact ⟨st, rfl, ho, rfl, hr, rfl, rfl, fun _ _ => rfl⟩
  | some a =>
    have hfin : execK objs st [alignSymbol c!"__romPos" a, alignSymbol c!"." a] k
        = { st with syms := st.syms ++ [(romPos, Val.num (Ld.alignUp r a))], dot := Ld.alignUp st.dot a } := by
      simp only [execK]
      rw [show step objs st (alignSymbol c!"__romPos" a) _ = _ from step_outer_alignSym objs st ho romPos ne_dot r a hr _]
      exact step_outer_alignDot objs _ (ho.setSym _ _) a _
    rw [alignPair, hfin]
    exact ⟨_, rfl, ⟨ho.cur, ho.nd⟩, rfl, (lookupLast_snoc _ _ _ _).trans (if_pos rfl), rfl, rfl,
      fun n hn => (lookupLast_snoc _ _ _ _).trans (if_neg hn.symm)⟩

/-- the lines `add_segment` writes after the noload output section. -/
def segTail (cx : Ctx) (seg : Segment) : List Line :=
  [.addAssign c!"__romPos" (.sizeofE (c!"." ++ seg.name))]
  ++ (match seg.segmentEndAlign with
      | some a => [alignSymbol c!"__romPos" a, alignSymbol c!"." a] | none => [])
  ++ symEndSize (cx.d.settings.style.segVramStart seg.name) (cx.d.settings.style.segVramEnd seg.name)
      (cx.d.settings.style.segVramSize seg.name) .dot
  ++ symEndSize (cx.d.settings.style.segRomStart seg.name) (cx.d.settings.style.segRomEnd seg.name)
      (cx.d.settings.style.segRomSize seg.name) (.sym c!"__romPos")
  ++ (match seg.vramClass with
      | some cname => [.blank, maxSelf (cx.d.settings.style.classEnd cname) (cx.d.settings.style.segVramEnd seg.name)]
      | none => [])
  ++ [.blank]

/-- the lines `add_segment` writes between the class prologue and the allocatable output section. -/
def segHead (cx : Ctx) (seg : Segment) : List Line :=
  alignPair seg.segmentStartAlign
  ++ [linkerSym (cx.d.settings.style.segRomStart seg.name) (.sym c!"__romPos"),
      linkerSym (cx.d.settings.style.segVramStart seg.name) (.addr (c!"." ++ seg.name))]

theorem segmentLines_parts (cx : Ctx) (seg : Segment) (cls alloc noload : List Line) :
    segmentLines cx seg cls alloc noload =
      cls ++ (segHead cx seg ++ (alloc ++ (.blank :: (noload ++ (.blank :: segTail cx seg))))) := by
  simp only [segmentLines, segTail, segHead, List.append_assoc, List.cons_append, List.nil_append]
  rfl

theorem segHead_simple (cx : Ctx) (seg : Segment) : ∀ l ∈ segHead cx seg, simple l = true :=
  List.forall_mem_append.2 ⟨alignPair_simple _, simple_all rfl⟩

theorem assigned_segHead (cx : Ctx) (seg : Segment) :
    assigned (segHead cx seg) = assigned (alignPair seg.segmentStartAlign)
      ++ [cx.d.settings.style.segRomStart seg.name, cx.d.settings.style.segVramStart seg.name] := by
  unfold segHead
  simp only [assigned_append, assigned_cons, symOf_linkerSym]
  rfl

theorem assigned_segmentLines (cx : Ctx) (seg : Segment) (cls alloc noload : List Line) :
    assigned (segmentLines cx seg cls alloc noload) =
      assigned cls ++ (assigned (segHead cx seg) ++ (assigned alloc ++ (assigned noload ++ assigned (segTail cx seg)))) := by
  rw [segmentLines_parts]
  simp only [assigned_append, assigned_cons, symOf_blank, Option.toList, List.nil_append]

theorem eval_sym_num {st : St} {s : Str} {v : Nat} (h : lookupLast s st.syms = some (.num v)) :
    eval st (.sym s) = .num v := by
  simp [eval, h, resolve]

/-- what follows the four end and size symbols. -/
def tailClass (sty : Style) (seg : Segment) : List Line :=
  (match seg.vramClass with
   | some cname => [Line.blank, maxSelf (sty.classEnd cname) (sty.segVramEnd seg.name)]
   | none => []) ++ [Line.blank]

theorem segTail_eq (cx : Ctx) (seg : Segment) : segTail cx seg = Line.addAssign romPos (.sizeofE (c!"." ++ seg.name))
    :: (alignPair seg.segmentEndAlign
      ++ (.assign (cx.d.settings.style.segVramEnd seg.name) .dot false false true
        :: .assign (cx.d.settings.style.segVramSize seg.name)
            (.absSub (cx.d.settings.style.segVramEnd seg.name) (cx.d.settings.style.segVramStart seg.name)) false false true
        :: .assign (cx.d.settings.style.segRomEnd seg.name) (.sym c!"__romPos") false false true
        :: .assign (cx.d.settings.style.segRomSize seg.name)
            (.absSub (cx.d.settings.style.segRomEnd seg.name) (cx.d.settings.style.segRomStart seg.name)) false false true
        :: tailClass cx.d.settings.style seg)) := by
  simp only [segTail, tailClass, symEndSize, linkerSym, List.append_assoc, List.cons_append, List.nil_append]; rfl

theorem tailClass_outer (sty : Style) (seg : Segment) : ∀ l ∈ tailClass sty seg, OuterLine l := by
  intro l hl
  unfold tailClass at hl
  cases hvc : seg.vramClass <;> rw [hvc] at hl <;>
    simp only [List.mem_append, List.mem_cons, List.mem_nil_iff, or_false, false_or] at hl
  · subst hl; exact .blank
  · rcases hl with (rfl | rfl) | rfl
    · exact .blank
    · exact .sym _ _ _ _ _ ne_dot
    · exact .blank

theorem segTail_simple (cx : Ctx) (seg : Segment) : ∀ l ∈ segTail cx seg, simple l = true := by
  rw [segTail_eq]
  refine List.forall_mem_cons.2 ⟨rfl, List.forall_mem_append.2 ⟨?_, ?_⟩⟩
  · exact alignPair_simple _
  · unfold tailClass
    cases seg.vramClass <;> exact simple_all rfl

theorem assigned_tailClass (sty : Style) (seg : Segment) :
    assigned (tailClass sty seg) = (seg.vramClass.map sty.classEnd).toList := by
  unfold tailClass
  cases seg.vramClass <;> simp only [assigned_cons, assigned_nil, symOf_blank, symOf_maxSelf, Option.toList,
    Option.map, List.nil_append, List.append_nil, List.cons_append]

theorem assigned_segTail (cx : Ctx) (seg : Segment) :
    assigned (segTail cx seg) = romPos :: assigned (alignPair seg.segmentEndAlign)
      ++ [cx.d.settings.style.segVramEnd seg.name, cx.d.settings.style.segVramSize seg.name,
          cx.d.settings.style.segRomEnd seg.name, cx.d.settings.style.segRomSize seg.name]
      ++ (match seg.vramClass with | some c => [cx.d.settings.style.classEnd c] | none => []) := by
  rw [segTail_eq]
  simp only [assigned_cons, assigned_append, symOf_assign, assigned_tailClass, Option.toList, List.append_assoc,
    List.cons_append, List.nil_append]
  cases seg.vramClass <;> rfl

theorem not_mem_classEnds {f : Fam} {n : Str} [IsName f n] (sty : Style) (o : Option Str)
    (hf : f.clash (.sym .cls .stop) = false := by decide) : n ∉ (o.map sty.classEnd).toList := by
  cases o with
  | none => exact fun h => nomatch h
  | some c => exact fun h => absurd (List.mem_singleton.1 h) (name_ne hf)

/-- `segTail` up to its class part: `st3` is the state in which `tailClass` is reached. -/
theorem tail_split (objs : List InSec) (cx : Ctx) (seg : Segment) (st : St) (ho : Outside st) (r0 : Nat)
    (hr : lookupLast romPos st.syms = some (.num r0)) (k : List Line) :
    ∃ st3, execK objs st (segTail cx seg) k = execK objs st3 (tailClass cx.d.settings.style seg) k ∧ Outside st3 ∧
      st3.dot = alignO seg.segmentEndAlign st.dot ∧ st3.secs = st.secs ∧ st3.placed = st.placed ∧
      lookupLast romPos st3.syms
        = some (.num (alignO seg.segmentEndAlign (r0 + ((findSec st (c!"." ++ seg.name)).map (·.size) |>.getD 0)))) ∧
      lookupLast (cx.d.settings.style.segVramEnd seg.name) st3.syms = some (.num st3.dot) ∧
      lookupLast (cx.d.settings.style.segRomEnd seg.name) st3.syms
        = some (.num (alignO seg.segmentEndAlign (r0 + ((findSec st (c!"." ++ seg.name)).map (·.size) |>.getD 0)))) ∧
      ∀ c, lookupLast (cx.d.settings.style.classEnd c) st3.syms = lookupLast (cx.d.settings.style.classEnd c) st.syms := by
  have e1 := step_outer_addSize objs st ho romPos ne_dot r0 hr (c!"." ++ seg.name)
  generalize ((findSec st (c!"." ++ seg.name)).map (·.size) |>.getD 0) = z at e1 ⊢
  rw [segTail_eq]
  simp only [execK]
  rw [e1, execK_append]
  generalize (_ ++ k) = K
  obtain ⟨st2, e2, ho2, hd2, hr2, hs2, hp2, hk2⟩ := seg_aligns objs seg.segmentEndAlign
    { st with syms := st.syms ++ [(romPos, Val.num (r0 + z))] } ⟨ho.cur, ho.nd⟩ (r0 + z) (by rw [lookupLast_snoc, if_pos rfl]) K
  rw [← e2, execK_sym objs ho2.nd ne_dot, execK_sym objs (ho2.setSym _ _).nd ne_dot,
    execK_sym objs ((ho2.setSym _ _).setSym _ _).nd ne_dot, execK_sym objs (((ho2.setSym _ _).setSym _ _).setSym _ _).nd ne_dot]
  refine ⟨_, rfl, (((ho2.setSym _ _).setSym _ _).setSym _ _).setSym _ _, hd2, hs2, hp2, ?_, ?_, ?_, fun c => ?_⟩
  · rw [lookupLast_setSym, if_neg name_ne, lookupLast_setSym, if_neg name_ne, lookupLast_setSym, if_neg name_ne,
      lookupLast_setSym, if_neg name_ne, hr2]
  · -- the VRAM end symbol is assigned first, from the location counter
    rw [lookupLast_setSym, if_neg name_ne, lookupLast_setSym, if_neg name_ne, lookupLast_setSym, if_neg name_ne,
      lookupLast_setSym, if_pos rfl]
    rfl
  · -- the ROM end symbol is assigned third, from the ROM counter
    rw [lookupLast_setSym, if_neg name_ne, lookupLast_setSym, if_pos rfl]
    exact congrArg some (eval_sym_num (by rw [lookupLast_setSym, if_neg name_ne, lookupLast_setSym, if_neg name_ne]; exact hr2))
  · rw [lookupLast_setSym, if_neg name_ne, lookupLast_setSym, if_neg name_ne, lookupLast_setSym, if_neg name_ne,
      lookupLast_setSym, if_neg name_ne, hk2 _ name_ne, lookupLast_snoc, if_neg name_ne]

/-- **after the output sections**: the ROM counter advances by the size the link recorded for
the allocatable output section and is rounded up to the end alignment, like the location
counter; the segment's VRAM end symbol is that location counter and its ROM end symbol that
ROM counter; no output section is touched. -/
theorem tail_image (objs : List InSec) (cx : Ctx) (seg : Segment) (st : St) (ho : Outside st) (r0 : Nat)
    (hr : lookupLast romPos st.syms = some (.num r0)) (k : List Line) :
    ∃ st', st' = execK objs st (segTail cx seg) k ∧ Outside st' ∧
      st'.dot = alignO seg.segmentEndAlign st.dot ∧
      lookupLast romPos st'.syms
        = some (.num (alignO seg.segmentEndAlign (r0 + ((findSec st (c!"." ++ seg.name)).map (·.size) |>.getD 0)))) ∧
      lookupLast (cx.d.settings.style.segVramEnd seg.name) st'.syms = some (.num st'.dot) ∧
      lookupLast (cx.d.settings.style.segRomEnd seg.name) st'.syms
        = some (.num (alignO seg.segmentEndAlign (r0 + ((findSec st (c!"." ++ seg.name)).map (·.size) |>.getD 0)))) ∧
      st'.secs = st.secs ∧ st'.placed = st.placed := by
  obtain ⟨st3, e, o3, d3, s3, p3, r3, v3, re3, _⟩ := tail_split objs cx seg st ho r0 hr k
  rw [e]
  generalize cx.d.settings.style = sty at *
  obtain ⟨o4, d4, s4, p4⟩ := run_outer objs _ (tailClass_outer sty seg) st3 o3 k
  -- the class part assigns the class end symbol only
  have keep : ∀ {f : Fam} {n : Str} [IsName f n], f.clash (.sym .cls .stop) = false →
      lookupLast n (execK objs st3 (tailClass sty seg) k).syms = lookupLast n st3.syms :=
    fun h => execK_keeps_assigned objs (by rw [assigned_tailClass]; exact not_mem_classEnds sty _ h) st3 k
  exact ⟨_, rfl, o4, d4.trans d3, (keep rfl).trans r3, by rw [keep rfl, d4]; exact v3, (keep rfl).trans re3, s4.trans s3,
    p4.trans p3⟩

theorem findSec_snoc {st st' : St} {o : OutSec} (h : st'.secs = st.secs ++ [o]) (n : Str) :
    findSec st' n = if o.name = n then some o else findSec st n := by
  unfold findSec
  rw [h, List.reverse_append, List.reverse_singleton, List.singleton_append, List.find?_cons]
  by_cases hn : o.name = n <;> simp [hn]

theorem noload_name_ne (n : Str) : c!"." ++ n ++ c!".noload" ≠ c!"." ++ n := by
  intro h
  have := congrArg List.length h
  simp at this

/-- the ROM recurrence of one segment; `size` is the size of its allocatable output section. -/
def romStep (seg : Segment) (r size : Nat) : Nat :=
  alignO seg.segmentEndAlign (alignO seg.segmentStartAlign r + size)

def romFold : Nat → List (Segment × Nat) → Nat
  | r, [] => r
  | r, sz :: rest => romFold (romStep sz.1 r sz.2) rest

theorem romFold_append (r : Nat) (a b : List (Segment × Nat)) : romFold r (a ++ b) = romFold (romFold r a) b := by
  induction a generalizing r with
  | nil => rfl
  | cons z a ih => exact ih _

theorem head_image (objs : List InSec) (cx : Ctx) (seg : Segment) (cls : List Line)
    (hcls : ∀ l ∈ cls, OuterLine l ∧ symOf l ≠ some romPos) (st : St) (ho : Outside st) (r : Nat)
    (hr : lookupLast romPos st.syms = some (.num r)) (k : List Line) :
    Outside (execK objs st (cls ++ segHead cx seg) k) ∧
    (execK objs st (cls ++ segHead cx seg) k).dot = alignO seg.segmentStartAlign st.dot ∧
    (execK objs st (cls ++ segHead cx seg) k).secs = st.secs ∧
    (execK objs st (cls ++ segHead cx seg) k).placed = st.placed ∧
    lookupLast romPos (execK objs st (cls ++ segHead cx seg) k).syms = some (.num (alignO seg.segmentStartAlign r)) ∧
    lookupLast (cx.d.settings.style.segRomStart seg.name) (execK objs st (cls ++ segHead cx seg) k).syms
      = some (.num (alignO seg.segmentStartAlign r)) := by
  rw [execK_append]
  generalize segHead cx seg ++ k = K
  obtain ⟨o1, d1, s1, p1⟩ := run_outer objs cls (fun l hl => (hcls l hl).1) st ho K
  have r1 := (execK_keeps_assigned objs (not_mem_assigned.2 fun l hl => (hcls l hl).2) st K).trans hr
  generalize execK objs st cls K = st1 at *
  unfold segHead
  rw [execK_append]
  generalize (_ ++ k) = K
  obtain ⟨st2, e2, o2, d2, r2, s2, p2, _⟩ := seg_aligns objs seg.segmentStartAlign st1 o1 r r1 K
  rw [← e2]
  unfold linkerSym
  rw [execK_sym objs o2.nd ne_dot, execK_sym objs (o2.setSym _ _).nd ne_dot]
  refine ⟨(o2.setSym _ _).setSym _ _, by rw [← d1, ← d2]; rfl, by rw [← s1, ← s2]; rfl, by rw [← p1, ← p2]; rfl, ?_, ?_⟩
  · show lookupLast romPos (setSym (setSym st2 _ _) _ _).syms = _
    rw [lookupLast_setSym, if_neg name_ne, lookupLast_setSym, if_neg name_ne, r2]
  · show lookupLast _ (setSym (setSym st2 _ _) _ _).syms = _
    rw [lookupLast_setSym, if_neg name_ne, lookupLast_setSym, if_pos rfl]
    exact congrArg some (eval_sym_num r2)

/-- what the link has done behind the statements of an emitted segment that it reached in `st`
with the ROM counter at `r`: `st'` is the state behind them, `[aS, aE)` the allocatable output
section, `dN` the location counter behind the noload part. -/
structure SegImage (cx : Ctx) (seg : Segment) (cls : List Line) (st st' : St) (r aS aE al dN : Nat)
    (lmaV : Option Nat) : Prop where
  reached : Outside st
  reachedRom : lookupLast romPos st.syms = some (.num r)
  outside : Outside st'
  al_pos : 1 ≤ al
  /-- the address expression is evaluated in a state `st₁` that differs from `st` in the location
  counter and in the symbols assigned in front of the header. -/
  addr : ∀ a, segAddr cx seg = some a → ∃ st₁ : St, st₁.dot = alignO seg.segmentStartAlign st.dot ∧ st₁.secs = st.secs ∧
      (∀ n, n ∉ assigned (cls ++ segHead cx seg ++ kindStart cx seg false) → lookupLast n st₁.syms = lookupLast n st.syms) ∧
      aS = (operand st₁ a).getD (alignO seg.segmentStartAlign st.dot)
  noaddr : segAddr cx seg = none → aS = Ld.alignUp (alignO seg.segmentStartAlign st.dot) al
  le_alloc : aS ≤ aE
  le_noload : aE ≤ dN
  dot : st'.dot = alignO seg.segmentEndAlign dN
  rom : lookupLast romPos st'.syms = some (.num (romStep seg r (aE - aS)))
  romEnd : lookupLast (cx.d.settings.style.segRomEnd seg.name) st'.syms = some (.num (romStep seg r (aE - aS)))
  vramEnd : lookupLast (cx.d.settings.style.segVramEnd seg.name) st'.syms = some (.num st'.dot)
  sec : (⟨c!"." ++ seg.name, aS, aE - aS, lmaV, false, al⟩ : OutSec) ∈ st'.secs
  secs : ∃ extra, st'.secs = st.secs ++ extra

theorem SegImage.addr_of_operand {cx : Ctx} {seg : Segment} {cls : List Line} {st st' : St} {r aS aE al dN : Nat}
    {lmaV : Option Nat} (h : SegImage cx seg cls st st' r aS aE al dN lmaV) {a : Str} (ha : segAddr cx seg = some a)
    (hk : a ∉ assigned (cls ++ segHead cx seg ++ kindStart cx seg false)) {v : Nat}
    (hop : ∀ st₁ : St, lookupLast a st₁.syms = lookupLast a st.syms → operand st₁ a = some v) : aS = v := by
  obtain ⟨st₁, _, _, hkeep, hv⟩ := h.addr a ha
  rw [hv, hop st₁ (hkeep a hk)]; rfl

theorem SegImage.addr_of_sym {cx : Ctx} {seg : Segment} {cls : List Line} {st st' : St} {r aS aE al dN : Nat}
    {lmaV : Option Nat} (h : SegImage cx seg cls st st' r aS aE al dN lmaV) {a : Str} (ha : segAddr cx seg = some a)
    (hd : a ≠ c!".") {v : Nat} (hv : lookupLast a st.syms = some (.num v))
    (hk : a ∉ assigned (cls ++ segHead cx seg ++ kindStart cx seg false)) : aS = v :=
  h.addr_of_operand ha hk fun st₁ e => operand_num st₁ a v hd (e.trans hv)

theorem not_mem_assigned_head {f : Fam} {a : Str} [IsName f a] (cx : Ctx) (seg : Segment)
    (h1 : f.clash .romPos = false := by decide) (h2 : f.clash (.sym .rom .start) = false := by decide)
    (h3 : f.clash (.sym .vram .start) = false := by decide) :
    a ∉ assigned (segHead cx seg ++ kindStart cx seg false) := by
  rw [assigned_append, assigned_segHead, assigned_kindStart]
  simp only [List.mem_append, List.mem_cons, List.mem_nil_iff, or_false, not_or]
  refine ⟨⟨fun h => name_ne h1 (mem_assigned_alignPair h), name_ne h2, name_ne h3⟩, ?_⟩
  · split
    · exact fun h => absurd (List.mem_singleton.1 h) (name_ne h3)
    · exact fun h => nomatch h

/-- **one emitted segment (with at least one allocatable section) in the state behind its statements**, reached
outside an output section with the ROM counter at `r`:

* the allocatable output section opens at the value the address in its header has there (the literal of
  `fixed_vram`; `fixed_symbol`, the followed segment's VRAM end symbol or the class start symbol; the
  location counter where that symbol has no value) or, without an address, at the location counter
  rounded up to the segment start alignment and to the alignment `al ≥ 1` of its contents; it is
  recorded with that address `aS` and size `aE - aS`;
* the noload part follows it (`aE ≤ dN`, where `dN` is the location counter behind it);
* the location counter and the VRAM end symbol are `dN` rounded up to the end alignment;
* the ROM counter and the ROM end symbol are `r` rounded up to the start alignment, plus the
  size of the allocatable section only, rounded up to the end alignment. -/
theorem segment_run (objs : List InSec) (cx : Ctx) (seg : Segment) (cls alloc noload : List Line)
    (hcls : ∀ l ∈ cls, OuterLine l ∧ symOf l ≠ some romPos)
    (ha : writeSegment cx seg seg.allocSections false = .ok alloc)
    (hn : writeSegment cx seg seg.noloadSections true = .ok noload)
    (hne : seg.allocSections ≠ []) (hsy : cx.emitSecSyms = true)
    (st : St) (ho : Outside st) (r : Nat) (hr : lookupLast romPos st.syms = some (.num r)) (k : List Line) :
    ∃ (aS aE al dN : Nat) (lmaV : Option Nat),
      SegImage cx seg cls st (execK objs st (segmentLines cx seg cls alloc noload) k) r aS aE al dN lmaV := by
  rw [segmentLines_parts, ← List.append_assoc, execK_append]
  generalize (_ ++ k) = K
  obtain ⟨o3, d3, s3, _, r3, _⟩ := head_image objs cx seg cls hcls st ho r hr K
  have g3 : ∀ n, n ∉ assigned (cls ++ segHead cx seg) →
      lookupLast n (execK objs st (cls ++ segHead cx seg) K).syms = lookupLast n st.syms :=
    fun n hn => execK_keeps_assigned objs hn st K
  generalize execK objs st (cls ++ segHead cx seg) K = st3 at *
  clear K
  rw [execK_append]
  generalize (_ ++ k) = K
  obtain ⟨aS, aE, al, newA, hA⟩ := section_run objs cx seg seg.allocSections false alloc ha st3 o3 K
  have r4 := section_image_rom objs cx seg seg.allocSections false alloc ha st3 o3 K
  generalize execK objs st3 alloc K = st4 at hA r4 ⊢
  clear K
  obtain ⟨d4, lmaV, s4⟩ := hA.kept hne hsy
  simp only [Bool.false_eq_true, if_false] at s4
  rw [execK_blank, execK_append]
  generalize (_ ++ k) = K
  obtain ⟨nS, nE, al2, newN, hN⟩ := section_run objs cx seg seg.noloadSections true noload hn st4 hA.outside K
  have r6 := section_image_rom objs cx seg seg.noloadSections true noload hn st4 hA.outside K
  generalize execK objs st4 noload K = st6 at hN r6 ⊢
  clear K
  rw [execK_blank]
  -- where the location counter is, and which section `SIZEOF` finds
  have hfA : findSec st4 (c!"." ++ seg.name) = some ⟨c!"." ++ seg.name, aS, aE - aS, lmaV, false, al⟩ := by
    rw [findSec_snoc s4, if_pos rfl]
  have hdN : aE ≤ st6.dot ∧ findSec st6 (c!"." ++ seg.name) = some ⟨c!"." ++ seg.name, aS, aE - aS, lmaV, false, al⟩ ∧
      ∃ extra, st6.secs = st4.secs ++ extra := by
    rcases hN.closed with ⟨hd, lm, hs⟩ | ⟨_, hd, hs, _⟩
    · have h1 := le_alignUp st4.dot al2
      have h2 := hN.noaddr rfl
      have h3 := hN.le
      exact ⟨by omega, (findSec_snoc hs _).trans ((if_neg (noload_name_ne seg.name)).trans hfA), _, hs⟩
    · exact ⟨by rw [hd, d4]; exact Nat.le_refl _, by unfold findSec at hfA ⊢; rw [hs]; exact hfA, [], by rw [hs, List.append_nil]⟩
  obtain ⟨st8, e8, o8, d8, r8, v8, re8, s8, p8⟩ := tail_image objs cx seg st6 hN.outside (alignO seg.segmentStartAlign r)
    (by rw [r6, r4, r3]) k
  rw [hdN.2.1] at r8 re8
  simp only [Option.map_some, Option.getD_some] at r8 re8
  subst e8
  refine ⟨aS, aE, al, st6.dot, lmaV, ho, hr, o8, hA.al_pos, ?_, ?_, hA.le, hdN.1, d8, r8, re8, v8, ?_, ?_⟩
  · intro a ha'
    obtain ⟨st₁, hd₁, hs₁, hk₁, hv⟩ := hA.addr a ha'
    refine ⟨st₁, by rw [hd₁, d3], by rw [hs₁, s3], fun n hn => ?_, by rw [hv, d3]⟩
    rw [assigned_append, List.mem_append, not_or] at hn
    rw [hk₁ n (not_mem_assigned.1 hn.2), g3 n hn.1]
  · intro ha'
    rw [hA.noaddr ha', d3]
  · obtain ⟨extra, hx⟩ := hdN.2.2
    rw [s8, hx, s4]
    exact List.mem_append_left _ (List.mem_append_right _ (List.mem_singleton.2 rfl))
  · obtain ⟨extra, hx⟩ := hdN.2.2
    exact ⟨_, by rw [s8, hx, s4, s3, List.append_assoc]⟩

theorem segment_image (objs : List InSec) (cx : Ctx) (seg : Segment) (cls alloc noload : List Line)
    (hcls : ∀ l ∈ cls, OuterLine l ∧ symOf l ≠ some romPos)
    (ha : writeSegment cx seg seg.allocSections false = .ok alloc)
    (hn : writeSegment cx seg seg.noloadSections true = .ok noload)
    (hne : seg.allocSections ≠ []) (hsy : cx.emitSecSyms = true)
    (st : St) (ho : Outside st) (r : Nat) (hr : lookupLast romPos st.syms = some (.num r)) (k : List Line) :
    ∃ (aS aE al dN : Nat) (st' : St) (lmaV : Option Nat),
      st' = execK objs st (segmentLines cx seg cls alloc noload) k ∧ Outside st' ∧ 1 ≤ al ∧
      (∀ a, segAddr cx seg = some a → ∃ st₁ : St, st₁.dot = alignO seg.segmentStartAlign st.dot ∧ st₁.secs = st.secs ∧
          (∀ n, n ≠ romPos → (∀ l ∈ cls, symOf l ≠ some n) → n ≠ cx.d.settings.style.segRomStart seg.name →
            n ≠ cx.d.settings.style.segVramStart seg.name → (∀ l ∈ kindStart cx seg false, symOf l ≠ some n) →
            lookupLast n st₁.syms = lookupLast n st.syms) ∧
          aS = (operand st₁ a).getD (alignO seg.segmentStartAlign st.dot)) ∧
      (segAddr cx seg = none → aS = Ld.alignUp (alignO seg.segmentStartAlign st.dot) al) ∧
      aS ≤ aE ∧ aE ≤ dN ∧
      st'.dot = alignO seg.segmentEndAlign dN ∧
      lookupLast romPos st'.syms
        = some (.num (alignO seg.segmentEndAlign (alignO seg.segmentStartAlign r + (aE - aS)))) ∧
      lookupLast (cx.d.settings.style.segRomEnd seg.name) st'.syms
        = some (.num (alignO seg.segmentEndAlign (alignO seg.segmentStartAlign r + (aE - aS)))) ∧
      lookupLast (cx.d.settings.style.segVramEnd seg.name) st'.syms = some (.num st'.dot) ∧
      (⟨c!"." ++ seg.name, aS, aE - aS, lmaV, false, al⟩ : OutSec) ∈ st'.secs ∧
      (∃ extra, st'.secs = st.secs ++ extra) := by
  obtain ⟨aS, aE, al, dN, lmaV, h⟩ := segment_run objs cx seg cls alloc noload hcls ha hn hne hsy st ho r hr k
  refine ⟨aS, aE, al, dN, _, lmaV, rfl, h.outside, h.al_pos, fun a ha' => ?_, h.noaddr, h.le_alloc, h.le_noload, h.dot,
    h.rom, h.romEnd, h.vramEnd, h.sec, h.secs⟩
  obtain ⟨st₁, hd, hs, hk, hv⟩ := h.addr a ha'
  refine ⟨st₁, hd, hs, fun n hn0 hn1 hn2 hn3 hn4 => hk n ?_, hv⟩
  rw [assigned_append, assigned_append, assigned_segHead]
  simp only [List.mem_append, List.mem_cons, List.mem_nil_iff, or_false, not_or]
  exact ⟨⟨not_mem_assigned.2 hn1, fun h => hn0 (mem_assigned_alignPair h), hn2, hn3⟩, not_mem_assigned.2 hn4⟩

theorem beginSections_image (objs : List InSec) (cx : Ctx) (S0 : List (Str × Val)) (k : List Line) :
    Outside (execK objs { syms := S0 } (beginSections cx) k) ∧ (execK objs { syms := S0 } (beginSections cx) k).dot = 0 ∧
      (execK objs { syms := S0 } (beginSections cx) k).secs = [] ∧
      lookupLast romPos (execK objs { syms := S0 } (beginSections cx) k).syms = some (.num 0) := by
  have ho : ∀ st : St, Outside st ↔ st.cur = none ∧ st.inDiscard = false :=
    fun st => ⟨fun h => ⟨h.cur, h.nd⟩, fun h => ⟨h.1, h.2⟩⟩
  unfold beginSections
  -- without `List.append_assoc` the entries that `setSym` appends stay single, as `lookupLast_snoc` reads them
  cases cx.d.settings.hardcodedGpValue <;>
    simp [ho, execK, step, setSym, eval, lookupLast_snoc, romPos, -List.append_assoc]

theorem classIntro_outer (cx : Ctx) (cname : Str) (vc : VramClass) :
    ∀ l ∈ classIntro cx cname vc, OuterLine l ∧ symOf l ≠ some romPos := by
  have sym : ∀ {f : Fam} {s : Str} [IsName f s] (e : Expr) (p h lk : Bool), f.clash .romPos = false →
      OuterLine (.assign s e p h lk) ∧ symOf (.assign s e p h lk) ≠ some romPos := fun e p h lk hf =>
    ⟨.sym _ _ _ _ _ ne_dot, by rw [symOf_assign]; exact fun h => absurd (Option.some.inj h) (name_ne hf)⟩
  intro l hl
  unfold classIntro at hl
  simp only [List.mem_append, List.mem_cons, List.mem_nil_iff, or_false] at hl
  rcases hl with hl | rfl | rfl
  · cases hfv : vc.fixedVram with
    | some v =>
      simp only [hfv, List.mem_cons, List.mem_nil_iff, or_false] at hl
      subst hl
      exact sym _ _ _ _ rfl
    | none =>
      cases hfs : vc.fixedSymbol with
      | some fs =>
        simp only [hfv, hfs, List.mem_cons, List.mem_nil_iff, or_false] at hl
        subst hl
        exact sym _ _ _ _ rfl
      | none =>
        simp only [hfv, hfs, List.mem_cons, List.mem_map] at hl
        rcases hl with rfl | ⟨other, _, rfl⟩ <;> exact sym _ _ _ _ rfl
  · exact sym _ _ _ _ rfl
  · exact ⟨.blank, fun h => nomatch h⟩

theorem classPart_outer {cx : Ctx} {em : List Str} {seg : Segment} {cls : List Line} {em' : List Str}
    (h : classPart cx em seg = .ok (cls, em')) : ∀ l ∈ cls, OuterLine l ∧ symOf l ≠ some romPos :=
  classPart_elim (motive := fun cls => ∀ l ∈ cls, OuterLine l ∧ symOf l ≠ some romPos) h
    (fun _ _ _ hl => by cases hl) (fun c vc _ _ _ _ => classIntro_outer cx c vc)

theorem classPart_simple {cx : Ctx} {em : List Str} {seg : Segment} {cls : List Line} {em' : List Str}
    (h : classPart cx em seg = .ok (cls, em')) : ∀ l ∈ cls, simple l = true :=
  fun l hl => (classPart_outer h l hl).1.simple

/-- **an invariant of the link through all segments.** `I pre done st r`: the segments `pre` have been folded, `done` was
written for them, the link has reached `st` and the ROM counter holds `r`. It has to be carried over one emitted segment
only, from what `segment_run` says about it (`SegImage`). -/
theorem segments_run (objs : List InSec) (cx : Ctx) (hsy : cx.emitSecSyms = true)
    {I : List Segment → List Line → St → Nat → Prop}
    {segs : List Segment} {em : List Str} {ls : List Line} {em' : List Str}
    (h : addSegments cx em segs = .ok (ls, em'))
    (hall : ∀ s ∈ segs, shouldEmit cx.o s.cond = true → s.allocSections ≠ [])
    {st : St} {r : Nat} (ho : Outside st) (hr : lookupLast romPos st.syms = some (.num r)) (k : List Line)
    (start : I [] [] st r)
    (skip : ∀ {seg pre done st r}, I pre done st r → shouldEmit cx.o seg.cond = false → I (pre ++ [seg]) done st r)
    (emit : ∀ {seg cls alloc noload aS aE dN done pre post st r al lmaV},
      I pre done st r → shouldEmit cx.o seg.cond = true → (∀ l ∈ cls, OuterLine l ∧ symOf l ≠ some romPos) →
      SegImage cx seg cls st (execK objs st (segmentLines cx seg cls alloc noload) (post ++ k)) r aS aE al dN lmaV →
      I (pre ++ [seg]) (done ++ segmentLines cx seg cls alloc noload)
        (execK objs st (segmentLines cx seg cls alloc noload) (post ++ k)) (romStep seg r (aE - aS))) :
    ∃ r', Outside (execK objs st ls k) ∧ lookupLast romPos (execK objs st ls k).syms = some (.num r') ∧
      I segs ls (execK objs st ls k) r' := by
  have key := addSegments_induction (cx := cx)
    (P := fun _ todo b _ => ∀ pre done st r, segs = pre ++ todo → Outside st →
      lookupLast romPos st.syms = some (.num r) → I pre done st r →
      ∃ r', Outside (execK objs st b k) ∧ lookupLast romPos (execK objs st b k).syms = some (.num r') ∧
        I (pre ++ todo) (done ++ b) (execK objs st b k) r')
    (fun em pre done st r _ ho hr hi => ⟨r, ho, hr, by rw [List.append_nil, List.append_nil]; exact hi⟩)
    (fun em seg rest a em1 b em' ha _ ih pre done st r hsegs ho hr hi => by
      have hm : seg ∈ segs := by rw [hsegs]; exact List.mem_append_right _ List.mem_cons_self
      rw [show pre ++ seg :: rest = (pre ++ [seg]) ++ rest by rw [List.append_assoc]; rfl] at hsegs ⊢
      rw [← List.append_assoc, execK_append]
      apply addSegment_elim ha
      · intro he hem
        subst hem
        rw [List.append_nil]
        exact ih _ _ _ _ hsegs ho hr (skip hi he)
      · intro he cls alloc noload hc hal hnl
        obtain ⟨aS, aE, al, dN, lmaV, hS⟩ := segment_run objs cx seg cls alloc noload (classPart_outer hc) hal hnl
          (hall seg hm he) hsy st ho r hr (b ++ k)
        exact ih _ _ _ _ hsegs hS.outside hS.rom (emit hi he (classPart_outer hc) hS))
    h [] [] st r rfl ho hr start
  simpa only [List.nil_append] using key

/-- the states in which `add_segment`'s statements are reached: between output sections, the ROM counter a number. -/
structure Between (st : St) : Prop where
  out : Outside st
  rom : ∃ r, lookupLast romPos st.syms = some (.num r)

theorem addSegment_emitted {cx : Ctx} {em : List Str} {seg : Segment} {a : List Line} {em1 : List Str}
    (h : addSegment cx em seg = .ok (a, em1)) (hinc : shouldEmit cx.o seg.cond = true) :
    ∃ cls alloc noload, a = segmentLines cx seg cls alloc noload ∧
      writeSegment cx seg seg.allocSections false = .ok alloc ∧ writeSegment cx seg seg.noloadSections true = .ok noload ∧
      ∀ l ∈ cls, OuterLine l ∧ symOf l ≠ some romPos := by
  apply addSegment_elim h
  · intro hex; rw [hex] at hinc; cases hinc
  · exact fun _ cls alloc noload hcp ha hn => ⟨cls, alloc, noload, rfl, ha, hn, classPart_outer hcp⟩

theorem _root_.Slinky.C03.writeSegment_kindStart (cx : Ctx) (seg : Segment) (secs : List Str) (nl : Bool) (ls : List Line)
    (h : writeSegment cx seg secs nl = .ok ls) : ∃ rest, ls = kindStart cx seg nl ++ rest := by
  obtain ⟨body, _, rfl⟩ := writeSegment_ok.1 h
  exact ⟨_, by simp only [segmentStart, List.append_assoc]; rfl⟩

theorem _root_.Slinky.C03.vramEnd_assigned (cx : Ctx) (seg : Segment) (cls alloc noload : List Line) :
    1 ≤ assignCount (cx.d.settings.style.segVramEnd seg.name) (segmentLines cx seg cls alloc noload) :=
  assignCount_pos_iff.2 (by rw [assigned_segmentLines, assigned_segTail]; simp)

/-- `segment_run` for what `add_segment` returns, with what the whole-script theorems need of the text: a name `lsSeg`
never assigns is not assigned in front of the header; `lsSeg` assigns the VRAM end symbol. -/
theorem addSegment_run (objs : List InSec) (cx : Ctx) (hsy : cx.emitSecSyms = true) {em : List Str} {seg : Segment}
    {lsSeg : List Line} {em' : List Str} (hadd : addSegment cx em seg = .ok (lsSeg, em'))
    (hinc : shouldEmit cx.o seg.cond = true) (hne : seg.allocSections ≠ [])
    (st : St) (hb : Between st) (k : List Line) :
    ∃ (cls : List Line) (r aS aE al dN : Nat) (lmaV : Option Nat),
      SegImage cx seg cls st (execK objs st lsSeg k) r aS aE al dN lmaV ∧
      (∀ a, assignCount a lsSeg = 0 → a ∉ assigned (cls ++ segHead cx seg ++ kindStart cx seg false)) ∧
      1 ≤ assignCount (cx.d.settings.style.segVramEnd seg.name) lsSeg := by
  obtain ⟨r, hr⟩ := hb.rom
  apply addSegment_elim hadd
  · intro hex; rw [hex] at hinc; cases hinc
  · intro _ cls alloc noload hcp halloc hnoload
    obtain ⟨aS, aE, al, dN, lmaV, hS⟩ :=
      segment_run objs cx seg cls alloc noload (classPart_outer hcp) halloc hnoload hne hsy st hb.out r hr k
    refine ⟨cls, r, aS, aE, al, dN, lmaV, hS, fun a hcnt => ?_, C03.vramEnd_assigned cx seg cls alloc noload⟩
    have hn := not_mem_assigned_of_count hcnt
    obtain ⟨rest, rfl⟩ := C03.writeSegment_kindStart cx seg seg.allocSections false alloc halloc
    simp only [assigned_segmentLines, assigned_append, List.mem_append, not_or] at hn ⊢
    exact ⟨⟨hn.1, hn.2.1⟩, hn.2.2.1.1⟩

theorem addSegment_between (objs : List InSec) (cx : Ctx) (hsy : cx.emitSecSyms = true) {em : List Str} {seg : Segment}
    {a : List Line} {em1 : List Str} (hadd : addSegment cx em seg = .ok (a, em1))
    (hne : shouldEmit cx.o seg.cond = true → seg.allocSections ≠ [])
    (st : St) (hb : Between st) (k : List Line) : Between (execK objs st a k) := by
  obtain ⟨r, hr⟩ := hb.rom
  apply addSegment_elim hadd
  · exact fun _ _ => hb
  · intro he cls alloc noload hcp ha hn
    obtain ⟨_, _, _, _, _, hS⟩ := segment_run objs cx seg cls alloc noload (classPart_outer hcp) ha hn (hne he) hsy st hb.out r hr k
    exact ⟨hS.outside, _, hS.rom⟩

theorem segments_between (objs : List InSec) (cx : Ctx) (hsy : cx.emitSecSyms = true)
    {segs : List Segment} {em : List Str} {ls : List Line} {em' : List Str}
    (h : addSegments cx em segs = .ok (ls, em'))
    (hall : ∀ s ∈ segs, shouldEmit cx.o s.cond = true → s.allocSections ≠ [])
    (st : St) (hb : Between st) (k : List Line) : Between (execK objs st ls k) := by
  revert hall st
  apply addSegments_induction ?_ ?_ h
  · exact fun _ _ _ hb => hb
  · intro em seg rest a em1 b em' ha _ ih hall st hb
    rw [execK_append]
    exact ih (fun s hs => hall s (List.mem_cons_of_mem _ hs)) _ (addSegment_between objs cx hsy ha (hall seg List.mem_cons_self) st hb _)

/-- **the run of the segments cut at one of them**: the segment is reached between output sections. -/
theorem segments_cut (objs : List InSec) (cx : Ctx) (hsy : cx.emitSecSyms = true)
    {pre : List Segment} {seg : Segment} {post : List Segment} {em : List Str} {ls : List Line} {em' : List Str}
    (h : addSegments cx em (pre ++ seg :: post) = .ok (ls, em'))
    (hall : ∀ s ∈ pre ++ seg :: post, shouldEmit cx.o s.cond = true → s.allocSections ≠ [])
    (st : St) (hb : Between st) (k : List Line) :
    ∃ lsPre em1 lsSeg em2 lsPost,
      addSegments cx em pre = .ok (lsPre, em1) ∧ addSegment cx em1 seg = .ok (lsSeg, em2) ∧
      addSegments cx em2 post = .ok (lsPost, em') ∧ ls = lsPre ++ (lsSeg ++ lsPost) ∧
      Between (execK objs st lsPre (lsSeg ++ lsPost ++ k)) ∧
      execK objs st ls k
        = execK objs (execK objs (execK objs st lsPre (lsSeg ++ lsPost ++ k)) lsSeg (lsPost ++ k)) lsPost k := by
  obtain ⟨lsPre, em1, _, hpre, hrest, rfl⟩ := addSegments_append_ok.1 h
  obtain ⟨lsSeg, em2, lsPost, hseg, hpost, rfl⟩ := addSegments_cons_ok.1 hrest
  refine ⟨lsPre, em1, lsSeg, em2, lsPost, hpre, hseg, hpost, rfl, ?_, ?_⟩
  · exact segments_between objs cx hsy hpre (fun s hs => hall s (List.mem_append_left _ hs)) st hb _
  · rw [execK_append, execK_append]

end Ld
end Slinky
