/-
  C03 — each segment starts at the VRAM address the document requests.
-/
import Props.Getters
import Props.ImageDoc
namespace Slinky.C03
open Slinky W

/-- **the address request of a segment**, in this priority; without one the linker continues at the current
location. -/
theorem header_address (cx : Ctx) (seg : Segment) :
    segAddr cx seg =
      match seg.fixedVram, seg.fixedSymbol, seg.followsSegment, seg.vramClass with
      | some v, _, _, _ => some (c!"0x" ++ toHex8 v)
      | none, some s, _, _ => some s
      | none, none, some f, _ => some (cx.d.settings.style.segVramEnd f)
      | none, none, none, some c => some (cx.d.settings.style.classStart c)
      | none, none, none, none => none := by
  unfold segAddr
  -- each `cases` splits the `none` goal of the one before: a field counts only when those before it are unset
  cases seg.fixedVram
  cases seg.fixedSymbol
  cases seg.followsSegment
  cases seg.vramClass
  all_goals rfl

/-- for every *parsed* segment at most one of the four address fields is set, so the priority
above never has to choose. -/
theorem address_fields_exclusive (st : Settings) (s : SegmentS) (seg : Segment)
    (h : segmentRest st s = .ok seg) :
    atMostOne [seg.fixedVram.isSome, seg.fixedSymbol.isSome, seg.followsSegment.isSome, seg.vramClass.isSome] = true := by
  obtain ⟨hv, rfl⟩ := segmentRest_inv h
  have h1 := restValid_atMostOne hv
  simp only [hasValue_eq] at h1
  exact h1

/-- **shape of the two output sections of a segment.** Only the allocatable part carries the address request and
`AT(<ROM start symbol>)`; the noload part has no address — it simply follows. -/
theorem section_headers (cx : Ctx) (seg : Segment) :
    segmentStart cx seg false = kindStart cx seg false ++
        [.outHdr (c!"." ++ seg.name) false (segAddr cx seg) (some (cx.d.settings.style.segRomStart seg.name)) seg.subalign,
         .blockOpen] ∧
    segmentStart cx seg true = kindStart cx seg true ++
        [.outHdr (c!"." ++ seg.name ++ c!".noload") true none none seg.subalign, .blockOpen] := by
  constructor <;> rfl

/-- **the statements `add_segment` writes around the two parts of an emitted segment**, in order. The start symbol
is `ADDR(.<seg>)`: the address at which the linker places the segment, whatever it is; the end symbol is `.` after
the noload part and the end alignment. -/
theorem segment_statements (cx : Ctx) (seg : Segment) (cls alloc noload : List Line) :
    segmentLines cx seg cls alloc noload =
      cls
      ++ (match seg.segmentStartAlign with
          | some a => [alignSymbol c!"__romPos" a, alignSymbol c!"." a] | none => [])
      ++ [linkerSym (cx.d.settings.style.segRomStart seg.name) (.sym c!"__romPos"),
          linkerSym (cx.d.settings.style.segVramStart seg.name) (.addr (c!"." ++ seg.name))]
      ++ alloc ++ [.blank] ++ noload ++ [.blank]
      ++ [.addAssign c!"__romPos" (.sizeofE (c!"." ++ seg.name))]
      ++ (match seg.segmentEndAlign with
          | some a => [alignSymbol c!"__romPos" a, alignSymbol c!"." a] | none => [])
      ++ [linkerSym (cx.d.settings.style.segVramEnd seg.name) .dot,
          linkerSym (cx.d.settings.style.segVramSize seg.name)
            (.absSub (cx.d.settings.style.segVramEnd seg.name) (cx.d.settings.style.segVramStart seg.name)),
          linkerSym (cx.d.settings.style.segRomEnd seg.name) (.sym c!"__romPos"),
          linkerSym (cx.d.settings.style.segRomSize seg.name)
            (.absSub (cx.d.settings.style.segRomEnd seg.name) (cx.d.settings.style.segRomStart seg.name))]
      ++ (match seg.vramClass with
          | some cname => [.blank, maxSelf (cx.d.settings.style.classEnd cname) (cx.d.settings.style.segVramEnd seg.name)]
          | none => [])
      ++ [.blank] := by
  rw [segmentLines, symEndSize, symEndSize, List.append_assoc _ [_, _] [_, _]]
  rfl

/-- single-segment mode honours `fixed_vram` as the initial location and nothing else: the script opens with
`. = 0x<fixed_vram>;` iff the field is set, and every header `write_single_segment` writes is without an address
(`W.singleGroupE_ok`). -/
theorem single_segment_start (cx : Ctx) (seg : Segment) (ls : List Line) (h : addSingleSegment cx seg = .ok ls) :
    ∃ alloc noload, writeSingleSegment cx seg seg.allocSections false = .ok alloc ∧
      writeSingleSegment cx seg seg.noloadSections true = .ok noload ∧
      ls = [.sectionsKw, .blockOpen]
        ++ (if cx.emitSecSyms then
              match cx.d.settings.hardcodedGpValue with
              | some v => [.assign c!"_gp" (.hex8 v) false false false, .blank] | none => []
            else [])
        ++ (match seg.fixedVram with
            | some v => [.assign c!"." (.hex8 v) false false false, .blank] | none => [])
        ++ alloc ++ [.blank] ++ noload ++ [.blank] ++ endSections cx [] :=
  addSingleSegment_ok.1 h

open Ld in
/-- **C03, image clause for the allocatable part**: the output section `.<segment>` opens at the value of the
address expression its header carries (`header_address`), or, without one, at the location counter rounded up to the
alignment `al` of its contents; it is recorded with that address and the size `end − start`, or is empty and leaves
the location counter and the recorded sections as they were. -/
theorem image_segment_start (objs : List InSec) (cx : Ctx) (seg : Segment) (secs : List Str)
    (ls : List Line) (h : writeSegment cx seg secs false = .ok ls) (st : St) (ho : Outside st) (k : List Line) :
    ∃ (start end_ al : Nat) (st' : St), st' = execK objs st ls k ∧ 1 ≤ al ∧ start ≤ end_ ∧
      (∀ a, segAddr cx seg = some a → ∃ st₁ : St, st₁.dot = st.dot ∧ st₁.secs = st.secs ∧
        (∀ n, (∀ l ∈ kindStart cx seg false, symOf l ≠ some n) → lookupLast n st₁.syms = lookupLast n st.syms) ∧
        start = (operand st₁ a).getD st.dot) ∧
      (segAddr cx seg = none → start = Ld.alignUp st.dot al) ∧
      ((st'.dot = end_ ∧ ∃ lmaV, st'.secs = st.secs ++ [⟨c!"." ++ seg.name, start, end_ - start, lmaV, false, al⟩]) ∨
       (end_ = start ∧ st'.dot = st.dot ∧ st'.secs = st.secs)) := by
  obtain ⟨start, end_, al, new, h⟩ := section_run objs cx seg secs false ls h st ho k
  exact ⟨start, end_, al, _, rfl, h.al_pos, h.le, h.addr, h.noaddr, h.closed.imp id fun x => ⟨x.1, x.2.1, x.2.2.1⟩⟩

open Ld in
/-- **C03, image clause for the noload part**: `.<segment>.noload` opens at the location counter (where the
allocatable part left it) rounded up to the alignment of its contents, and places nothing below that. -/
theorem image_noload_follows (objs : List InSec) (cx : Ctx) (seg : Segment) (secs : List Str)
    (ls : List Line) (h : writeSegment cx seg secs true = .ok ls) (st : St) (ho : Outside st) (k : List Line) :
    ∃ (start al : Nat), 1 ≤ al ∧ start = Ld.alignUp st.dot al ∧ st.dot ≤ start ∧
      ∀ p ∈ (execK objs st ls k).placed, p ∉ st.placed → start ≤ p.addr := by
  obtain ⟨start, end_, al, new, h⟩ := section_run objs cx seg secs true ls h st ho k
  refine ⟨start, al, h.al_pos, h.noaddr rfl, h.noaddr rfl ▸ le_alignUp _ _, fun p hp hnp => ?_⟩
  rw [h.placed] at hp
  exact (chainOk_mem _ _ _ _ h.chain p ((List.mem_append.1 hp).resolve_left hnp)).1

open Ld in
/-- **C03 in the linked image, for one emitted segment**: `.<segment>` is recorded at `aS`, the value of the
requested address expression or — without a request — the location counter rounded up to the segment start alignment
and then to the alignment `al` of the contents; the noload part ends at `dN ≥ aE`; the VRAM end symbol holds `dN`
rounded up to the segment end alignment, which is also where the next segment starts from. -/
theorem image_segment_vram (objs : List InSec) (cx : Ctx) (seg : Segment) (cls alloc noload : List Line)
    (hcls : ∀ l ∈ cls, OuterLine l ∧ symOf l ≠ some Ld.romPos)
    (ha : writeSegment cx seg seg.allocSections false = .ok alloc)
    (hn : writeSegment cx seg seg.noloadSections true = .ok noload)
    (hne : seg.allocSections ≠ []) (hsy : cx.emitSecSyms = true)
    (st : St) (ho : Outside st) (r : Nat) (hr : lookupLast Ld.romPos st.syms = some (.num r)) (k : List Line) :
    ∃ (aS aE al dN : Nat) (st' : St) (lmaV : Option Nat),
      st' = execK objs st (segmentLines cx seg cls alloc noload) k ∧ 1 ≤ al ∧
      (∀ a, segAddr cx seg = some a → ∃ st₁ : St, st₁.dot = alignO seg.segmentStartAlign st.dot ∧ st₁.secs = st.secs ∧
          (∀ n, n ≠ Ld.romPos → (∀ l ∈ cls, symOf l ≠ some n) → n ≠ cx.d.settings.style.segRomStart seg.name →
            n ≠ cx.d.settings.style.segVramStart seg.name → (∀ l ∈ kindStart cx seg false, symOf l ≠ some n) →
            lookupLast n st₁.syms = lookupLast n st.syms) ∧
          aS = (operand st₁ a).getD (alignO seg.segmentStartAlign st.dot)) ∧
      (segAddr cx seg = none → aS = Ld.alignUp (alignO seg.segmentStartAlign st.dot) al) ∧
      aS ≤ aE ∧ aE ≤ dN ∧
      st'.dot = alignO seg.segmentEndAlign dN ∧
      lookupLast (cx.d.settings.style.segVramEnd seg.name) st'.syms = some (.num st'.dot) ∧
      (⟨c!"." ++ seg.name, aS, aE - aS, lmaV, false, al⟩ : OutSec) ∈ st'.secs := by
  obtain ⟨aS, aE, al, dN, st', lmaV, h1, _, h3, h4, h5, h6, h7, h8, _, _, h11, h12, _⟩ :=
    segment_image objs cx seg cls alloc noload hcls ha hn hne hsy st ho r hr k
  exact ⟨aS, aE, al, dN, st', lmaV, h1, h3, h4, h5, h6, h7, h8, h11, h12⟩

end Slinky.C03
