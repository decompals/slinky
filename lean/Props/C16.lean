/-
  C16 — structurally invalid documents are rejected; valid ones are accepted.
-/
import Props.Lemmas
import Props.Getters
namespace Slinky.C16
open Slinky

def okB {α} : D α → Bool
  | .ok _ => true
  | .error _ => false

@[simp] theorem okB_ok {α} (a : α) : okB (Except.ok a : D α) = true := rfl
@[simp] theorem okB_error {α} (e : ErrKind) : okB (Except.error e : D α) = false := rfl
theorem okB_eq_isSome {α} (x : D α) : okB x = x.toOption.isSome := by cases x <;> rfl

theorem okB_of_toOption {α} {x : D α} {c : Bool} {v : α} (hx : x.toOption = if c then some v else none) :
    okB x = c := by
  rw [okB_eq_isSome, hx]; cases c <;> rfl

/-! A decoder is a chain `x.bind fun a => …` (its `match`es are binds, see `W.writeSegment_ok`): it accepts iff each
step does. -/

theorem okB_bind {α β} {x : D α} {g : α → D β} {c : Bool} (hg : ∀ a, x = .ok a → okB (g a) = c) :
    okB (x.bind g) = (okB x && c) := by
  cases x with
  | error e => rfl
  | ok a => exact hg a rfl

theorem okB_bind_ok {α β} {x : D α} {g : α → β} : okB (x.bind fun a => .ok (g a)) = okB x := by
  cases x <;> rfl

theorem okB_unless {α} {b : Bool} {e : ErrKind} {x : D α} {c : Bool} (hx : okB x = c) :
    okB (if b then .error e else x) = (!b && c) := by
  cases b with
  | false => exact hx
  | true => rfl

theorem subfileR_ok (k : FileKind) (a : AN Str) : okB (subfileR k a) = satisfies (rule .subfile k) a := by
  cases k <;> cases a <;> rfl
theorem padR_ok (k : FileKind) (a : AN Nat) : okB (padR k a) = satisfies (rule .padAmount k) a := by
  cases k <;> cases a <;> rfl
theorem sectR_ok (k : FileKind) (a : AN Str) : okB (sectR k a) = satisfies (rule .sect k) a := by
  cases k <;> cases a <;> rfl
theorem loR_ok (k : FileKind) (a : AN Str) : okB (loR k a) = satisfies (rule .linkerOffsetName k) a := by
  cases k <;> cases a <;> rfl
theorem soR_ok (k : FileKind) (a : AN (List (Str × Str))) : okB (soR k a) = satisfies (rule .sectionOrder k) a := by
  cases k <;> cases a <;> rfl
theorem dirR_ok (k : FileKind) (a : AN Str) : okB (dirR k a) = satisfies (rule .dir k) a := by
  cases k <;> cases a <;> rfl

/-- the four condition lists: each absent or non-empty. -/
theorem cond_ok (c : CondS) : okB c.unserialize = condValid c := okB_of_toOption (cond_toOption c)

theorem kindFromPath_cases (p : Str) : kindFromPath p = .object ∨ kindFromPath p = .archive := by
  unfold kindFromPath
  split
  · split <;> simp
  · simp

theorem pathKind_toOption (path : AN Str) (kindA : AN FileKind) :
    (pathKindR path kindA).toOption = match kindOf path kindA with
      | none => none
      | some k => if pathValid k path then some (path.toOpt.getD [], k) else none := by
  rcases kindA with _ | _ | k
  · rcases path with _ | _ | _ | ⟨c, cs⟩
    case value.cons =>
      show some (c :: cs, kindFromPath (c :: cs)) = if pathValid (kindFromPath (c :: cs)) (.value (c :: cs)) then _ else none
      rcases kindFromPath_cases (c :: cs) with h | h <;> rw [h] <;> rfl
    all_goals rfl
  · rfl
  · cases k <;> rcases path with _ | _ | _ | _ <;> rfl

/-- path and kind: accepted iff the kind is determined and the path obeys the kind. -/
theorem pathKind_ok (path : AN Str) (kindA : AN FileKind) :
    (∀ p k, pathKindR path kindA = .ok (p, k) → kindOf path kindA = some k ∧ pathValid k path = true) ∧
    (∀ k, kindOf path kindA = some k → pathValid k path = true → ∃ p, pathKindR path kindA = .ok (p, k)) := by
  have h := pathKind_toOption path kindA
  cases hk : kindOf path kindA with
  | none =>
    rw [hk] at h
    refine ⟨fun p k hpk => ?_, nofun⟩
    rw [hpk] at h
    cases h
  | some k' =>
    rw [hk] at h
    constructor
    · intro p k hpk
      obtain ⟨hv, e⟩ := ok_of_toOption h hpk
      cases e
      exact ⟨rfl, hv⟩
    · intro k hk hv
      cases hk
      obtain ⟨e, he⟩ := eq_ite_of_toOption h
      exact ⟨_, he.trans (if_pos hv)⟩

theorem filesR_ok {α} (k : FileKind) (files : AN (List FileS)) (children : D (List α)) :
    okB (filesR k files.hasValue files.isPresent children)
      = (satisfies (rule .files k) files
          && (match files with
              | .value _ => if k = .group then okB children else true
              | _ => true)) := by
  cases k <;> cases files <;> rfl

/-- the fields of one entry against the body of `fileValid`, with the verdict on the children in the place of
`filesValid`. -/
theorem fileFields_ok {pass : Bool} {path : AN Str} {kindA : AN FileKind} {subfile : AN Str} {padAmount : AN Nat}
    {sect lo : AN Str} {so : AN (List (Str × Str))} (files : AN (List FileS)) (children : D (List FileInfo))
    {dir : AN Str} {c : CondS} {keep : Keep} :
    okB (fileFields pass path kindA subfile padAmount sect lo so files.hasValue files.isPresent children dir c keep)
      = (match kindOf path kindA with
         | none => false
         | some k =>
           pathValid k path
           && satisfies (rule .subfile k) subfile && satisfies (rule .padAmount k) padAmount
           && satisfies (rule .sect k) sect && satisfies (rule .linkerOffsetName k) lo
           && satisfies (rule .sectionOrder k) so && satisfies (rule .files k) files
           && (match files with
               | .value _ => if k = .group then okB children else true
               | _ => true)
           && satisfies (rule .dir k) dir && condValid c) := by
  unfold fileFields filePre filePost
  have h := pathKind_toOption path kindA
  cases hk : kindOf path kindA with
  | none =>
    rw [hk] at h
    cases hp : pathKindR path kindA with
    | error e => rfl
    | ok r => rw [hp] at h; cases h
  | some k =>
    rw [hk] at h
    obtain ⟨e, he⟩ := eq_ite_of_toOption h
    have hf (b : Bool) : (b && satisfies (rule .files k) files
        && (match files with
            | .value _ => if k = .group then okB children else true
            | _ => true))
        = (b && okB (filesR k files.hasValue files.isPresent children)) := by rw [Bool.and_assoc, filesR_ok]
    dsimp only
    rw [he, ← subfileR_ok, ← padR_ok, ← sectR_ok, ← loR_ok, ← soR_ok, hf, ← dirR_ok, ← cond_ok]
    cases pathValid k path; · rfl
    simp only [if_true]
    cases subfileR k subfile; · rfl
    cases padR k padAmount; · rfl
    cases sectR k sect; · rfl
    cases loR k lo; · rfl
    cases soR k so; · rfl
    dsimp only
    cases filesR k files.hasValue files.isPresent children; · rfl
    cases dirR k dir; · rfl
    cases c.unserialize <;> rfl

set_option smartUnfolding false in
mutual
  /-- **file entries.** An entry is accepted iff its kind is determined, its path obeys the
  kind, each of the seven kind-specific fields satisfies the required / optional / forbidden
  table for that kind, its condition lists are absent or non-empty, and (for a group) all its
  children are valid — for every nesting depth. -/
  theorem file_ok (pass : Bool) (f : FileS) : okB (FileS.unserialize pass f) = fileValid f := by
    cases f with
    | mk path kindA subfile padAmount sect lo so files dir c keep =>
      -- no `unfold fileValid`: the unfolding lemma of this nested recursion is dear to derive, and once `files`
      -- is a constructor both sides compute
      cases files with
      | value l =>
        refine (fileFields_ok (.value l) (FileS.unserializeList pass l)).trans ?_
        rw [files_ok pass l]; rfl
      | absent => exact fileFields_ok .absent (.ok [])
      | null => exact fileFields_ok .null (.ok [])
  theorem files_ok (pass : Bool) (l : List FileS) : okB (FileS.unserializeList pass l) = filesValid l := by
    cases l with
    | nil => rfl
    | cons f fs =>
      rw [filesValid, ← file_ok pass f, ← files_ok pass fs]
      exact okB_bind fun _ _ => okB_bind_ok
end

/-- vram classes: a non-empty name, no `null`, exactly one placement field. -/
theorem class_ok (v : VramClassS) : okB v.unserialize = classValid v := by
  unfold VramClassS.unserialize classValid
  cases v.name; · rfl
  rcases v.fixedVram with _ | _ | _ <;> rcases v.fixedSymbol with _ | _ | _ <;>
    rcases v.followsClasses with _ | _ | _ | _ <;> rfl

theorem assignment_ok (a : SymbolAssignmentS) : okB a.unserialize = assignmentValid a := by
  unfold SymbolAssignmentS.unserialize assignmentValid
  rw [← cond_ok]
  simp -iota only [nonNull_eq_ite]
  cases a.name; · rfl
  cases a.value; · rfl
  cases notNull a.provide; · rfl
  cases notNull a.hidden; · rfl
  cases a.cond.unserialize <;> rfl

theorem required_ok (a : RequiredSymbolS) : okB a.unserialize = requiredValid a := by
  unfold RequiredSymbolS.unserialize requiredValid
  rw [← cond_ok]
  cases a.name; · rfl
  cases a.cond.unserialize <;> rfl

theorem assert_ok (a : AssertS) : okB a.unserialize = assertValid a := by
  unfold AssertS.unserialize assertValid
  rw [← cond_ok]
  cases a.check; · rfl
  cases a.errorMessage; · rfl
  cases a.cond.unserialize <;> rfl

theorem gp_ok (g : GpInfoS) : okB g.unserialize = gpValid g := okB_of_toOption (gp_toOption g)

theorem segmentRest_ok (st : Settings) (s : SegmentS) : okB (segmentRest st s) = restValid st s :=
  okB_of_toOption (segmentRest_toOption st s)

set_option smartUnfolding false in
theorem segment_ok (pass : Bool) (st : Settings) (s : SegmentS) :
    okB (SegmentS.unserialize pass st s) = segmentValid st s := by
  unfold SegmentS.unserialize segmentValid
  rw [← files_ok pass, ← segmentRest_ok]
  by_cases hn : s.name = []
  · rw [if_pos hn, decide_eq_false (not_not_intro hn)]; rfl
  · rw [if_neg hn, decide_eq_true hn, Bool.true_and, Bool.and_assoc]
    exact okB_unless (okB_bind fun _ _ => okB_bind_ok)

theorem settings_ok (s : SettingsS) : okB s.unserialize = settingsValid s :=
  okB_of_toOption (settings_toOption s)

theorem okB_mapE {α β} {f : α → D β} {p : α → Bool} (hp : ∀ x, okB (f x) = p x) (l : List α) :
    okB (mapE f l) = l.all p := by
  induction l with
  | nil => rfl
  | cons a as ih =>
    rw [mapE_cons, List.all_cons, ← ih, ← hp]
    exact okB_bind fun _ _ => okB_bind_ok

theorem listValid_bind {α β γ} {a : AN (List α)} {f : α → D β} {p : α → Bool} (hp : ∀ x, okB (f x) = p x)
    {k : List β → D γ} {c : Bool} (hk : ∀ l, okB (k l) = c) :
    okB ((a.nonNull []).bind fun l => (mapE f l).bind k) = (listValid a p && c) := by
  cases a with
  | absent => exact hk []
  | null => rfl
  | value l => exact (okB_bind fun r _ => hk r).trans (congrArg (· && c) (okB_mapE hp l))

theorem nnnd_ok {α} (a : AN α) : okB a.nonNullNoDefault = notNull a := by cases a <;> rfl

set_option smartUnfolding false in
theorem documentPost_ok (d : DocumentS) :
    okB (documentPost d) = (notNull d.entry && (listValid d.symbolAssignments assignmentValid
      && (listValid d.requiredSymbols requiredValid && listValid d.asserts assertValid))) := by
  rw [← nnnd_ok, ← Bool.and_true (listValid d.asserts assertValid)]
  exact okB_bind fun _ _ => listValid_bind assignment_ok fun _ => listValid_bind required_ok fun _ =>
    listValid_bind assert_ok fun _ => rfl

set_option smartUnfolding false in
theorem documentPre_ok (d : DocumentS) :
    okB (documentPre d) = (settingsPartValid d && !d.segments.isEmpty && listValid d.vramClasses classValid) := by
  refine (okB_bind (c := !d.segments.isEmpty && (listValid d.vramClasses classValid && true)) fun st _ => ?_).trans ?_
  · exact okB_unless (listValid_bind class_ok fun _ => rfl)
  · rw [Bool.and_true, Bool.and_assoc]
    congr 1
    unfold settingsPartValid
    cases d.settings with
    | absent => rfl
    | null => rfl
    | value s => exact settings_ok s

set_option smartUnfolding false in
theorem documentPre_settings {d : DocumentS} {r : Settings × List VramClass} (h : documentPre d = .ok r) :
    settingsOf d = some r.1 := by
  obtain ⟨st, hst, h⟩ := bind_eq_ok.1 h
  split at h
  · nomatch h
  obtain ⟨_, _, h⟩ := bind_eq_ok.1 h
  obtain ⟨_, _, rfl⟩ := bind_ok_eq_ok.1 h
  unfold settingsOf
  revert hst
  cases d.settings with
  | absent => exact fun hst => congrArg some (Except.ok.inj hst)
  | null => exact nofun
  | value s => exact congrArg Except.toOption

set_option smartUnfolding false in
theorem document_ok (pass : Bool) (d : DocumentS) : okB (d.unserialize pass) = documentValid d := by
  unfold documentValid
  rw [← documentPre_ok]
  simp only [Bool.and_assoc]
  rw [← documentPost_ok]
  refine okB_bind fun r hr => ?_
  rw [documentPre_settings hr]
  dsimp only
  rw [← okB_mapE (segment_ok pass r.1)]
  exact okB_bind fun _ _ => okB_bind_ok

/-- **C16: a document is accepted iff it is valid**: for a tree that `dDocumentS` decodes into the serial records
(only known keys, no duplicate keys, scalar types, no `null` for the required strings: `validDoc` calls the decoder
itself for this part) parsing succeeds exactly when every record satisfies its declarative table (`file_ok` …
`document_ok`), with a non-empty `segments` list. -/
theorem accept_iff_valid (y : Y) : okB (parseDocument y) = validDoc y := by
  unfold parseDocument validDoc
  cases dDocumentS y with
  | error e => rfl
  | ok ds => exact document_ok true ds

theorem checkKeys_of_ok {known : List Str} {m : List (Str × Y)} {β} {k : D β} {r : β}
    (h : (match checkKeys known m with | .error e => (.error e : D β) | .ok () => k) = .ok r) :
    ∀ kv ∈ m, kv.1 ∈ known := by
  unfold checkKeys at h
  by_cases hc : (m.all (fun kv => kv.1 ∈ known) && nodupKeys m) = true
  · simp only [Bool.and_eq_true, List.all_eq_true, decide_eq_true_eq] at hc
    exact hc.1
  · rw [if_neg hc] at h; cases h

/-- unknown keys are rejected at every one of the nine record levels. -/
theorem unknown_key_rejected :
    (∀ m ds, dDocumentS (.map m) = .ok ds → ∀ kv ∈ m, kv.1 ∈
        [c!"settings", c!"vram_classes", c!"segments", c!"entry", c!"symbol_assignments", c!"required_symbols", c!"asserts"]) ∧
    (∀ m s, dSettingsS (.map m) = .ok s → ∀ kv ∈ m, kv.1 ∈ settingsKeys) ∧
    (∀ m s, dSegmentS (.map m) = .ok s → ∀ kv ∈ m, kv.1 ∈ segmentKeys) ∧
    (∀ n m f, dFileS (n + 1) (.map m) = .ok f → ∀ kv ∈ m, kv.1 ∈ fileKeys) ∧
    (∀ m g, dGpInfoS (.map m) = .ok g → ∀ kv ∈ m, kv.1 ∈ [c!"section", c!"offset", c!"provide", c!"hidden"] ++ condKeys) ∧
    (∀ m v, dVramClassS (.map m) = .ok v → ∀ kv ∈ m, kv.1 ∈
        [c!"name", c!"fixed_vram", c!"fixed_symbol", c!"follows_classes", c!"keep_sections"]) ∧
    (∀ m a, dSymbolAssignmentS (.map m) = .ok a → ∀ kv ∈ m, kv.1 ∈ [c!"name", c!"value", c!"provide", c!"hidden"] ++ condKeys) ∧
    (∀ m a, dRequiredSymbolS (.map m) = .ok a → ∀ kv ∈ m, kv.1 ∈ [c!"name"] ++ condKeys) ∧
    (∀ m a, dAssertS (.map m) = .ok a → ∀ kv ∈ m, kv.1 ∈ [c!"check", c!"error_message"] ++ condKeys) :=
  ⟨fun _ _ h => checkKeys_of_ok h, fun _ _ h => checkKeys_of_ok h, fun _ _ h => checkKeys_of_ok h,
   fun _ _ _ h => checkKeys_of_ok h, fun _ _ h => checkKeys_of_ok h, fun _ _ h => checkKeys_of_ok h,
   fun _ _ h => checkKeys_of_ok h, fun _ _ h => checkKeys_of_ok h, fun _ _ h => checkKeys_of_ok h⟩

end Slinky.C16
