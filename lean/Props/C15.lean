/-
  C15 — generation is deterministic: the one map whose visiting order reaches the output, `section_order`, is
  sorted by a total order first. What carries a fact about `emitSection` up to `generate` is stated once here, for
  any change of the options, the entries, `gp_info` and the document's lists that the sections do not notice
  (`SameSections`); C06 and C06Trace use it as well.
-/
import Batteries.Data.List.Basic
import Props.Emit
namespace Slinky.C15
open Slinky List

theorem strLt_iff : ∀ (a b : Str), strLt a b = true ↔ a.map Char.toNat < b.map Char.toNat
  | [], [] => by simp [strLt]
  | [], _ :: _ => by simp [strLt]
  | _ :: _, [] => by simp [strLt]
  | c :: cs, d :: ds => by
    rw [strLt, List.map_cons, List.map_cons, List.cons_lt_cons_iff, ← strLt_iff cs ds]
    by_cases h1 : c.toNat < d.toNat
    · simp [h1]
    · by_cases h2 : d.toNat < c.toNat
      · simp [h1, h2]; omega
      · simp [h1, h2]; omega

theorem strLt_eq_false_iff (a b : Str) : strLt b a = false ↔ a.map Char.toNat ≤ b.map Char.toNat := by
  rw [← Bool.not_eq_true, strLt_iff]
  exact List.not_lt

/-- the rank `sections_to_emit_here` sorts by: the sections that are not listed first, the listed ones by position. -/
def rank (sections : List Str) (a : Str) : List Nat :=
  match position a sections with | none => [0, 0] | some i => [1, i]

/-- the sort key as a list of numbers in lexicographic order: the rank, then the name. -/
def key (sections : List Str) (a : Str) : List Nat := rank sections a ++ a.map Char.toNat

theorem keyLe_iff (sections : List Str) (a b : Str) : keyLe sections a b = true ↔ key sections a ≤ key sections b := by
  unfold keyLe key rank
  cases position a sections <;> cases position b sections <;>
    simp [List.cons_le_cons_iff, strLt_eq_false_iff]

theorem key_inj (sections : List Str) {a b : Str} (h : key sections a = key sections b) : a = b := by
  have hl : ∀ c, (rank sections c).length = 2 := fun c => by unfold rank; cases position c sections <;> rfl
  exact (List.map_inj_right fun _ _ => Char.toNat_inj.1).1 (List.append_inj_right h (by rw [hl, hl]))

/-- sorting by `(position, name)` gives the same list for every arrangement of the input: the key is a total order. -/
theorem sortBy_perm (sections : List Str) {l₁ l₂ : List Str} (h : l₁ ~ l₂) :
    sortBy (keyLe sections) l₁ = sortBy (keyLe sections) l₂ :=
  sortBy_eq_of_perm (fun a b => by rw [keyLe_iff, keyLe_iff]; exact List.le_total _ _)
    (fun a b c => by rw [keyLe_iff, keyLe_iff, keyLe_iff]; exact List.le_trans)
    (fun a b h1 h2 => key_inj sections (List.le_antisymm ((keyLe_iff ..).1 h1) ((keyLe_iff ..).1 h2))) h

theorem lookup_isSome_perm {β} (k : Str) {l₁ l₂ : List (Str × β)} (h : l₁ ~ l₂) :
    (lookup k l₁).isSome = (lookup k l₂).isSome := by
  have key : ∀ l : List (Str × β), (lookup k l).isSome = l.any (fun kv => kv.1 = k) := by
    intro l
    induction l with
    | nil => rfl
    | cons a as ih =>
      obtain ⟨k', v⟩ := a
      unfold lookup
      by_cases hk : k' = k <;> simp [hk, ih]
  rw [key, key]
  exact h.any_eq

/-- **the one place a hash map is iterated.** The sections a file contributes to a group do
not depend on the order in which its `section_order` map is visited. -/
theorem sectionsToEmitHere_perm {o₁ o₂ : List (Str × Str)} (h : o₁ ~ o₂) (sec : Str) (secs : List Str) :
    sectionsToEmitHere o₁ sec secs = sectionsToEmitHere o₂ sec secs := by
  unfold sectionsToEmitHere
  rw [h.isEmpty_eq, lookup_isSome_perm sec h]
  split
  · rfl
  · apply sortBy_perm
    apply Perm.append_left
    exact h.filterMap _

mutual
  /-- two file entries that are the same up to the visiting order of every `section_order`. -/
  def FEq : FileInfo → FileInfo → Prop
    | .mk p k sf pa se lo so fs dir c keep, .mk p' k' sf' pa' se' lo' so' fs' dir' c' keep' =>
      p = p' ∧ k = k' ∧ sf = sf' ∧ pa = pa' ∧ se = se' ∧ lo = lo' ∧ so ~ so' ∧ FEqL fs fs'
        ∧ dir = dir' ∧ c = c' ∧ keep = keep'
  def FEqL : List FileInfo → List FileInfo → Prop
    | [], [] => True
    | a :: as, b :: bs => FEq a b ∧ FEqL as bs
    | _, _ => False
end

theorem concatMapE_forall₂ {α β ε} {g g' : α → Except ε (List β)} (R : α → α → Prop)
    (hg : ∀ a b, R a b → g a = g' b) :
    ∀ (l₁ l₂ : List α), List.Forall₂ R l₁ l₂ → concatMapE g l₁ = concatMapE g' l₂ := by
  intro l₁ l₂ h
  induction h with
  | nil => rfl
  | cons hab _ ih => rw [concatMapE_cons, concatMapE_cons, hg _ _ hab, ih]

theorem FEqL_forall₂ : ∀ (l₁ l₂ : List FileInfo), FEqL l₁ l₂ → List.Forall₂ FEq l₁ l₂
  | [], [], _ => .nil
  | _ :: as, _ :: bs, h => by
    unfold FEqL at h
    exact .cons h.1 (FEqL_forall₂ as bs h.2)
  | [], _ :: _, h => by simp [FEqL] at h
  | _ :: _, [], h => by simp [FEqL] at h

/-- what a file entry emits for a section does not depend on the visiting order of its own or of
any nested entry's `section_order`. -/
theorem emitEntry_perm (cx : Ctx) (seg : Segment) (secs : List Str) :
    ∀ (fuel : Nat) (f₁ f₂ : FileInfo), FEq f₁ f₂ → ∀ (sec base : Str) (parents : List Str),
      emitEntry cx seg secs fuel f₁ sec base parents = emitEntry cx seg secs fuel f₂ sec base parents := by
  refine emitEntry_congr FEq rfl rfl ?_ ?_ ?_ ?_ ?_
  all_goals
    rintro ⟨p, k, sf, pa, se, lo, so, fs, dir, c, keep⟩ ⟨p', k', sf', pa', se', lo', so', fs', dir', c', keep'⟩ h
    unfold FEq at h
    obtain ⟨rfl, rfl, rfl, rfl, rfl, rfl, hso, hfs, rfl, rfl, rfl⟩ := h
  · rfl
  · exact fun sec => sectionsToEmitHere_perm hso sec secs
  · exact congrArg (· && decide (k = FileKind.group)) hso.isEmpty_eq
  · intros; rfl
  · exact fun F F' hF => concatMapE_forall₂ FEq hF fs fs' (FEqL_forall₂ fs fs' hfs)

theorem lookup_perm {β} (k : Str) {l₁ l₂ : List (Str × β)} (h : l₁ ~ l₂) (hnd : (l₁.map (·.1)).Nodup) :
    lookup k l₁ = lookup k l₂ := by
  have hnd₂ : (l₂.map (·.1)).Nodup := (h.map _).nodup_iff.mp hnd
  exact Option.ext fun v => by rw [lookup_eq_some_iff k l₁ hnd, lookup_eq_some_iff k l₂ hnd₂, h.mem_iff]

/-- distinct custom options supplied in any order build the same map. -/
theorem optsOfList_perm {l₁ l₂ : List (Str × Str)} (h : l₁ ~ l₂) (hnd : (l₁.map (·.1)).Nodup) :
    optsOfList l₁ = optsOfList l₂ := by
  funext k
  unfold optsOfList lookupLast
  apply lookup_perm k
  · exact (List.reverse_perm l₁).trans (h.trans (List.reverse_perm l₂).symm)
  · rw [List.map_reverse]; exact (List.reverse_perm _).nodup_iff.2 hnd

/-- `d'` is `d` but for its four lists (segments, symbol assignments, required symbols, asserts). -/
def DocFrame (d d' : Document) : Prop :=
  ∃ S A Rq T, d' = { d with segments := S, symbolAssignments := A, requiredSymbols := Rq, asserts := T }

/-- `cx'` is `cx` but for the options and the lists of `DocFrame`: of these the writer reads the options through
`shouldEmit` and the path expansion, and the segment list through `followedUsed`. -/
def CtxFrame (cx cx' : Ctx) : Prop := ∃ o' d', DocFrame cx.d d' ∧ cx' = { cx with o := o', d := d' }

/-- `seg'` under `cx'` is `seg` under `cx` but for the entries and the `gp_info`, and these make no difference to
`emitSection` and `gpLine`, through which alone the writer reads them. -/
structure SameSections (cx cx' : Ctx) (seg seg' : Segment) : Prop where
  ctx : CtxFrame cx cx'
  frame : ∃ fs g, seg' = { seg with files := fs, gpInfo := g }
  emit : ∀ sec secs, emitSection cx' seg' sec secs = emitSection cx seg sec secs
  gp : ∀ sec, gpLine cx' seg' sec = gpLine cx seg sec

section segment
variable {cx cx' : Ctx} {seg seg' : Segment}

theorem addSingleSegment_congr (h : SameSections cx cx' seg seg') : addSingleSegment cx' seg' = addSingleSegment cx seg := by
  obtain ⟨_, _, ⟨_, _, _, _, rfl⟩, rfl⟩ := h.ctx
  obtain ⟨_, _, rfl⟩ := h.frame
  unfold addSingleSegment writeSingleSegment sectionSymStart
  simp only [h.emit, h.gp]
  rfl

/-- `add_segment` reads, besides the sections, the segment's condition and which followed classes are in use. -/
theorem addSegment_congr (h : SameSections cx cx' seg seg') (hc : shouldEmit cx'.o seg'.cond = shouldEmit cx.o seg.cond)
    (hu : ∀ vc, followedUsed cx' vc = followedUsed cx vc) (em : List Str) : addSegment cx' em seg' = addSegment cx em seg := by
  obtain ⟨_, _, ⟨_, _, _, _, rfl⟩, rfl⟩ := h.ctx
  obtain ⟨_, _, rfl⟩ := h.frame
  unfold addSegment writeSegment sectionSymStart classPart classIntro
  simp only [h.emit, h.gp, hu, hc]
  rfl

theorem SameSections.of_frame (hcx : CtxFrame cx cx') (ho : cx'.o = cx.o) (seg : Segment) : SameSections cx cx' seg seg where
  ctx := hcx
  frame := ⟨_, _, rfl⟩
  emit _ _ := by
    obtain ⟨_, _, ⟨_, _, _, _, rfl⟩, rfl⟩ := hcx
    apply emitSection_env ho <;> rfl
  gp _ := by
    obtain ⟨_, _, ⟨_, _, _, _, rfl⟩, rfl⟩ := hcx
    unfold gpLine
    rw [ho]

end segment

theorem forall₂_map {α β} {R : α → β → Prop} (φ : α → β) : ∀ {l : List α}, (∀ a ∈ l, R a (φ a)) → Forall₂ R l (l.map φ)
  | [], _ => .nil
  | _ :: _, h => .cons (h _ mem_cons_self) (forall₂_map φ fun a ha => h a (mem_cons_of_mem _ ha))

theorem forall₂_same {α} {R : α → α → Prop} : ∀ {l : List α}, (∀ a ∈ l, R a a) → Forall₂ R l l
  | [], _ => .nil
  | _ :: _, h => .cons (h _ mem_cons_self) (forall₂_same fun a ha => h a (mem_cons_of_mem _ ha))

theorem addSegments_forall₂ {cx cx' : Ctx} {R : Segment → Segment → Prop}
    (hR : ∀ s s', R s s' → ∀ em, addSegment cx' em s' = addSegment cx em s) {l l' : List Segment} (h : Forall₂ R l l') :
    ∀ em, addSegments cx' em l' = addSegments cx em l := by
  induction h with
  | nil => intro em; rfl
  | cons hab _ ih =>
    intro em
    unfold addSegments
    rw [hR _ _ hab]
    simp only [ih]

/-- the context of the per-segment scripts of partial mode. -/
def singleCtx (d : Document) (o : Opts) (esc : Opts → Str → Except ErrKind Str) : Ctx :=
  { d := d, o := o, emitKindSyms := false, emitSecSyms := false, esc := esc }

/-- the context of the main script of partial mode. -/
def mainCtx (d : Document) (o : Opts) (esc : Opts → Str → Except ErrKind Str) : Ctx :=
  { d := d, o := o, refPartial := true, esc := esc }

/-- the two writers of partial mode cannot tell `s'` from `s`. -/
def SamePartial (d d' : Document) (o o' : Opts) (esc : Opts → Str → Except ErrKind Str) (folder : Str) (s s' : Segment) : Prop :=
  s'.name = s.name ∧ shouldEmit o' s'.cond = shouldEmit o s.cond ∧
  addSingleSegment (singleCtx d' o' esc) s' = addSingleSegment (singleCtx d o esc) s ∧
  ∀ em, addSegment (mainCtx d' o' esc) em (partialSegment folder s') = addSegment (mainCtx d o esc) em (partialSegment folder s)

theorem partialSegments_forall₂ {d d' : Document} {o o' : Opts} (vc : Bool) {folder : Str} {esc : Opts → Str → Except ErrKind Str}
    {R : Segment → Segment → Prop} (hR : ∀ s s', R s s' → SamePartial d d' o o' esc folder s s')
    {l l' : List Segment} (h : Forall₂ R l l') :
    ∀ em, partialSegments d' o' vc folder esc em l' = partialSegments d o vc folder esc em l := by
  induction h with
  | nil => intro em; rfl
  | cons hab _ ih =>
    intro em
    obtain ⟨hn, hc, h1, h2⟩ := hR _ _ hab
    unfold partialSegments
    unfold singleCtx at h1
    unfold mainCtx at h2
    simp only [hn, hc, h1, h2, ih]

section document
variable {d d' : Document} {o o' : Opts} {R : Segment → Segment → Prop}

theorem addAllSegments_congr {cx cx' : Ctx} (hcx : CtxFrame cx cx')
    (hR : ∀ s s', R s s' → (∀ em, addSegment cx' em s' = addSegment cx em s) ∧ addSingleSegment cx' s' = addSingleSegment cx s)
    (h : Forall₂ R cx.d.segments cx'.d.segments) : addAllSegments cx' = addAllSegments cx := by
  unfold addAllSegments
  rw [addSegments_forall₂ (fun s s' hss => (hR s s' hss).1) h]
  obtain ⟨_, _, ⟨S, _, _, _, rfl⟩, rfl⟩ := hcx
  change Forall₂ R cx.d.segments S at h
  change (if _ then (match S with | [seg] => _ | _ => _) else _) = _
  generalize cx.d.segments = l at h ⊢
  cases h with
  | nil => rfl
  | cons hab hrest =>
    cases hrest with
    | nil => simp only [(hR _ _ hab).2]; rfl
    | cons _ _ => rfl

theorem generatePartial_congr (hd : DocFrame d d') (vc : Bool) (esc : Opts → Str → Except ErrKind Str)
    (hR : ∀ folder, d.settings.partialBuildSegmentsFolder = some folder → ∀ s s', R s s' → SamePartial d d' o o' esc folder s s')
    (h : Forall₂ R d.segments d'.segments) (ht : topLevel d' o' = topLevel d o) :
    generatePartial d' o' vc esc = generatePartial d o vc esc := by
  have hs : d'.settings = d.settings := by obtain ⟨_, _, _, _, rfl⟩ := hd; rfl
  unfold generatePartial
  rw [hs]
  cases hf : d.settings.partialBuildSegmentsFolder with
  | none => rfl
  | some folder =>
    simp only [ht, partialSegments_forall₂ vc (hR folder hf) h]
    obtain ⟨_, _, _, _, rfl⟩ := hd
    rfl

end document

/-- `emitEntry` reads neither the document's segment list nor the segment's entries. -/
theorem emitEntry_irrelevant (cx : Ctx) (seg : Segment) (secs : List Str) (segs' : List Segment) (fs' : List FileInfo) :
    ∀ (fuel : Nat) (f : FileInfo) (sec base : Str) (parents : List Str),
      emitEntry { cx with d := { cx.d with segments := segs' } } { seg with files := fs' } secs fuel f sec base parents
        = emitEntry cx seg secs fuel f sec base parents := by
  intros
  apply emitEntry_env <;> rfl

theorem depth_FEq : ∀ (f₁ f₂ : FileInfo), FEq f₁ f₂ → FileInfo.depth f₁ = FileInfo.depth f₂
  | .mk p k sf pa se lo so fs dir c keep, .mk p' k' sf' pa' se' lo' so' fs' dir' c' keep', h => by
    unfold FEq at h
    obtain ⟨-, -, -, -, -, -, -, hfs, -⟩ := h
    unfold FileInfo.depth
    rw [depthList_FEqL fs fs' hfs]
where
  depthList_FEqL : ∀ (l₁ l₂ : List FileInfo), FEqL l₁ l₂ → FileInfo.depthList l₁ = FileInfo.depthList l₂
  | [], [], _ => rfl
  | a :: as, b :: bs, h => by
    unfold FEqL at h
    unfold FileInfo.depthList
    rw [depth_FEq a b h.1, depthList_FEqL as bs h.2]
  | [], _ :: _, h => by simp [FEqL] at h
  | _ :: _, [], h => by simp [FEqL] at h

def SegEq (s s' : Segment) : Prop := ∃ fs', FEqL s.files fs' ∧ s' = { s with files := fs' }

def DocEq (d d' : Document) : Prop := ∃ segs', List.Forall₂ SegEq d.segments segs' ∧ d' = { d with segments := segs' }

theorem emitSection_eq (cx : Ctx) (seg : Segment) (segs' : List Segment) (fs' : List FileInfo) (hf : FEqL seg.files fs')
    (sec : Str) (sections : List Str) :
    emitSection { cx with d := { cx.d with segments := segs' } } { seg with files := fs' } sec sections
      = emitSection cx seg sec sections := by
  have hfuel : fuelFor { seg with files := fs' } = fuelFor seg := by
    unfold fuelFor subgroupValues
    rw [← depth_FEq.depthList_FEqL seg.files fs' hf]
  rw [emitSection_eq_bind, emitSection_eq_bind, hfuel]
  refine congrArg (C01.segBase cx seg).bind (funext fun base => ?_)
  simp only [emitEntry_irrelevant]
  exact (concatMapE_forall₂ FEq (fun a b hab => emitEntry_perm cx seg sections (fuelFor seg) a b hab sec base [])
    seg.files fs' (FEqL_forall₂ _ _ hf)).symm

theorem any_forall₂ {α} (R : α → α → Prop) (p : α → Bool) (hp : ∀ a b, R a b → p a = p b) :
    ∀ (l l' : List α), List.Forall₂ R l l' → l.any p = l'.any p := by
  intro l l' h
  induction h with
  | nil => rfl
  | cons hab _ ih => simp only [List.any_cons, hp _ _ hab, ih]

theorem followedUsed_eq (cx : Ctx) (segs' : List Segment) (hs : List.Forall₂ SegEq cx.d.segments segs') (vc : VramClass) :
    followedUsed { cx with d := { cx.d with segments := segs' } } vc = followedUsed cx vc := by
  unfold followedUsed
  apply List.filter_congr
  intro other _
  symm
  apply any_forall₂ SegEq _ _ _ _ hs
  rintro a b ⟨fs', _, rfl⟩
  rfl

theorem SameSections.of_FEqL (cx : Ctx) (segs' : List Segment) {seg : Segment} {fs' : List FileInfo} (hf : FEqL seg.files fs') :
    SameSections cx { cx with d := { cx.d with segments := segs' } } seg { seg with files := fs' } where
  ctx := ⟨_, _, ⟨_, _, _, _, rfl⟩, rfl⟩
  frame := ⟨_, _, rfl⟩
  emit := emitSection_eq cx seg segs' fs' hf
  gp _ := rfl

theorem segEq_same (cx : Ctx) (segs' : List Segment) (hs : List.Forall₂ SegEq cx.d.segments segs') (s s' : Segment) (h : SegEq s s') :
    (∀ em, addSegment { cx with d := { cx.d with segments := segs' } } em s' = addSegment cx em s) ∧
    addSingleSegment { cx with d := { cx.d with segments := segs' } } s' = addSingleSegment cx s := by
  obtain ⟨fs', hf, rfl⟩ := h
  exact ⟨addSegment_congr (SameSections.of_FEqL cx segs' hf) rfl (followedUsed_eq cx segs' hs), addSingleSegment_congr (SameSections.of_FEqL cx segs' hf)⟩

/-- **C15 for whole documents**: two parsed documents that differ only in the order in which
the `section_order` map of any file entry (at any nesting depth, in any segment) is visited
(`DocEq`) generate the same outputs in both modes. The model iterates no other hash-based field:
all others are only looked up. -/
theorem generate_section_order_independent (d d' : Document) (h : DocEq d d') (o : Opts) (m : Mode) (vc : Bool) :
    generate d' o m vc = generate d o m vc := by
  obtain ⟨segs', hs, rfl⟩ := h
  have hd : DocFrame d { d with segments := segs' } := ⟨_, _, _, _, rfl⟩
  unfold generate generateNormal
  rw [addAllSegments_congr (cx := { d := d, o := o, esc := escapePath }) ⟨_, _, hd, rfl⟩
      (segEq_same { d := d, o := o, esc := escapePath } segs' hs) hs,
    generatePartial_congr hd vc escapePath (fun folder _ s s' hss => ?_) hs rfl]
  · rfl
  · obtain ⟨fs', hf, rfl⟩ := hss
    exact ⟨rfl, rfl, (segEq_same (singleCtx d o escapePath) segs' hs s _ ⟨fs', hf, rfl⟩).2,
      addSegment_congr (.of_frame ⟨_, _, ⟨_, _, _, _, rfl⟩, rfl⟩ rfl _) rfl (followedUsed_eq (mainCtx d o escapePath) segs' hs)⟩

def exFile (so : List (Str × Str)) : FileInfo := .mk c!"x.o" .object [] 0 [] [] so [] [] ({} : Cond) .absent
def exDoc (so : List (Str × Str)) : Document :=
  { settings := {}, segments := [{ name := c!"a", allocSections := [c!".text"], noloadSections := [], files := [exFile so] }] }

/-- the hypothesis is met by documents that really differ. -/
example : DocEq (exDoc [(c!".data", c!".text"), (c!".rodata", c!".text")]) (exDoc [(c!".rodata", c!".text"), (c!".data", c!".text")]) :=
  ⟨_, .cons ⟨[exFile [(c!".rodata", c!".text"), (c!".data", c!".text")]], by
      show FEqL [exFile _] [exFile _]
      unfold FEqL exFile FEq
      exact ⟨⟨rfl, rfl, rfl, rfl, rfl, rfl, List.Perm.swap _ _ _, by unfold FEqL; trivial, rfl, rfl, rfl⟩, by unfold FEqL; trivial⟩, rfl⟩ .nil, rfl⟩

/-- **option order**: distinct custom options supplied in any order generate the same outputs in
every mode: generation is a function of the option *map* (`optsOfList_perm`; the model looks
options up and never iterates them). -/
theorem generate_option_order (d : Document) (m : Mode) (vc : Bool) {l₁ l₂ : List (Str × Str)}
    (h : l₁ ~ l₂) (hnd : (l₁.map (·.1)).Nodup) :
    generate d (optsOfList l₁) m vc = generate d (optsOfList l₂) m vc := by
  rw [optsOfList_perm h hnd]

end Slinky.C15
