/-
  The scripts the whole-script theorems speak about, as one notion: both `generateNormal` (multi-segment mode) and the
  main script of `generatePartial` are `versionComment vc ++ (beginSections cx ++ ls ++ T)` with
  `addSegments cx [] segs = .ok (ls, emitted)` (`Ld.MainScript`). The image of such a script is that of the run of
  `ls`, then `T`, from a state between output sections, at address 0, with ROM counter 0 and every name the script does
  not assign as `--defsym` left it (`link_frame`, `MainScript.frame`); cut at one segment (`MainScript.cut`), the segment
  is reached between output sections.
-/
import Props.FinalSecs
import Props.ImageDoc
namespace Slinky

namespace C04
open W Ld

theorem execK_quiet (objs : List InSec) : ∀ (ls : List Line) (_ : ∀ l ∈ ls, l = .blank ∨ ∃ t, l = .comment t) (st : St) (k : List Line),
    execK objs st ls k = st :=
  fun ls h st k => execK_rel objs (R := fun a b => b = a) (fun _ => rfl) (fun h1 h2 => h2.trans h1)
    (fun _ _ _ hl => by rcases hl with rfl | ⟨t, rfl⟩ <;> rfl) ls st k h

theorem assignCount_quiet (n : Str) : ∀ (ls : List Line) (_ : ∀ l ∈ ls, l = .blank ∨ ∃ t, l = .comment t), assignCount n ls = 0 :=
  fun ls h => List.countP_eq_zero.2 fun l hl => by rcases h l hl with rfl | ⟨t, rfl⟩ <;> exact fun e => nomatch of_decide_eq_true e

theorem versionComment_quiet (b : Bool) : ∀ l ∈ versionComment b, l = .blank ∨ ∃ t, l = .comment t := by
  intro l hl
  unfold versionComment at hl
  split at hl
  · simp only [List.mem_cons, List.mem_nil_iff, or_false] at hl
    rcases hl with rfl | rfl
    · exact Or.inr ⟨_, rfl⟩
    · exact Or.inl rfl
  · cases hl

end C04

namespace Ld
open W

theorem carry_undefined (st : St) (n : Str) (h : lookupLast n st.syms = none) : lookupLast n (carry st) = none := by
  rw [C03.lookupLast_none_iff] at h ⊢
  unfold carry
  simp only [List.map_map, Function.comp_def, List.map_id']
  intro hm
  exact h ((mem_dedup _ _).1 hm)

theorem carry_number (st : St) (n : Str) (x : Nat) (h : lookupLast n st.syms = some (.num x)) :
    lookupLast n (carry st) = some (.num x) := by
  have hm : n ∈ st.syms.map (·.1) := by
    apply Classical.byContradiction
    intro hc
    rw [lookupLast_none_of_not_mem n st.syms hc] at h
    cases h
  unfold carry lookupLast
  rw [← List.map_reverse, lookup_map_self]
  rw [if_pos (by rw [List.mem_reverse]; exact (mem_dedup _ _).2 hm)]
  have : lookup n st.syms.reverse = some (.num x) := h
  simp only [this]
  rfl

/-- a name the script never assigns is, at the end of every evaluation, what `--defsym` made it: undefined, or its
number. -/
theorem passes_unassigned (objs : List InSec) (ls : List Line) (ds : List (Str × Val)) (n : Str) (v : Option Val)
    (hv : v = none ∨ ∃ x, v = some (.num x)) (hd : lookupLast n ds = v) (hc : assignCount n ls = 0) :
    ∀ k, lookupLast n (passes objs ls ds k).syms = v := by
  intro k
  induction k with
  | zero =>
    simp only [passes, pass, exec_eq_execK]
    rw [execK_keeps_count objs n ls _ [] hc]; exact hd
  | succ k ih =>
    simp only [passes, pass, exec_eq_execK]
    rw [execK_keeps_count objs n ls _ [] hc]
    rcases hv with rfl | ⟨x, rfl⟩
    · exact carry_undefined _ n ih
    · exact carry_number _ n x ih

/-- the state `st1` behind `begin_sections` in the last evaluation of `script = versionComment vc ++ (beginSections cx ++
ls ++ T)`: between output sections, at address 0, with ROM counter 0 and no output section; every name the script never
assigns is what `--defsym` made it (undefined, or its number); the image is that of the run of `ls`, then `T`, from there. -/
structure Frame (objs : List InSec) (defsyms : List (Str × Nat)) (cx : Ctx) (script ls T : List Line) (st1 : St) : Prop where
  between : Between st1
  dot : st1.dot = 0
  secs : st1.secs = []
  rom : lookupLast romPos st1.syms = some (.num 0)
  undef : ∀ n, assignCount n script = 0 → n ∉ defsyms.map (·.1) → lookupLast n st1.syms = none
  defsym : ∀ n x, assignCount n script = 0 →
    lookupLast n (defsyms.map fun kv => (kv.1, Val.num kv.2)) = some (.num x) → lookupLast n st1.syms = some (.num x)
  count : ∀ n, assignCount n script = assignCount n (beginSections cx) + (assignCount n ls + assignCount n T)
  hdrs : ∀ n, hdrCount n script = hdrCount n ls + hdrCount n T
  image : link objs defsyms script = imageOf (execK objs (execK objs st1 ls T) T [])

theorem link_frame (objs : List InSec) (defsyms : List (Str × Nat)) (cx : Ctx) (vc : Bool) (ls T : List Line) :
    ∃ st1 : St, Frame objs defsyms cx (versionComment vc ++ (beginSections cx ++ ls ++ T)) ls T st1 := by
  have hcnt : ∀ n, assignCount n (versionComment vc ++ (beginSections cx ++ ls ++ T))
      = assignCount n (beginSections cx) + (assignCount n ls + assignCount n T) := by
    intro n
    rw [assignCount_append, assignCount_append, assignCount_append, C04.assignCount_quiet n _ (C04.versionComment_quiet vc),
      Nat.zero_add, Nat.add_assoc]
  have hnone := fun n h0 hd => carry_undefined _ n (passes_unassigned objs (versionComment vc ++ (beginSections cx ++ ls ++ T))
    (defsyms.map fun kv => (kv.1, Val.num kv.2)) n none (Or.inl rfl) hd h0 1)
  have hnum := fun n x h0 hd => carry_number _ n x (passes_unassigned objs (versionComment vc ++ (beginSections cx ++ ls ++ T))
    (defsyms.map fun kv => (kv.1, Val.num kv.2)) n _ (Or.inr ⟨x, rfl⟩) hd h0 1)
  have himg := link_eq objs defsyms (versionComment vc ++ (beginSections cx ++ ls ++ T))
  generalize carry _ = S0 at hnone hnum himg
  rw [execK_append, C04.execK_quiet objs _ (C04.versionComment_quiet vc), execK_append, execK_append] at himg
  simp only [List.append_nil] at himg
  obtain ⟨o1, d1, s1, r1⟩ := beginSections_image objs cx S0 (ls ++ T)
  have hkeep : ∀ n, assignCount n (versionComment vc ++ (beginSections cx ++ ls ++ T)) = 0 →
      lookupLast n (execK objs { syms := S0 } (beginSections cx) (ls ++ T)).syms = lookupLast n S0 :=
    fun n h0 => execK_keeps_count objs n _ _ _ (by have := hcnt n; omega)
  refine ⟨_, ⟨o1, 0, r1⟩, d1, s1, r1, fun n h0 hd => ?_, fun n x h0 hd => (hkeep n h0).trans (hnum n x h0 hd), hcnt,
    fun n => ?_, himg⟩
  · rw [hkeep n h0]
    exact hnone n h0 (lookupLast_none_of_not_mem n _ (by rw [List.map_map]; exact hd))
  · have hv : hdrCount n (versionComment vc) = 0 := by cases vc <;> rfl
    have hb : hdrCount n (beginSections cx) = 0 := by
      unfold beginSections
      cases cx.d.settings.hardcodedGpValue <;> rfl
    rw [hdrCount_append, hdrCount_append, hdrCount_append, hv, hb]; omega

/-! The counts of a main script are `begin_sections + (segments + rest)`: a bound on the whole bounds the segments' share
(`part_le`), and when the segments alone reach it the rest is 0 (`rest_zero`). -/

theorem part_le {a b r e : Nat} (h : a + (b + r) ≤ e) : b ≤ e := by omega

theorem rest_zero {a b r e : Nat} (h : a + (b + r) ≤ e) (hb : e ≤ b) : r = 0 := by omega

theorem frame_reads {objs : List InSec} {defsyms : List (Str × Nat)} {cx : Ctx} {script ls T : List Line} {st1 : St}
    (f : Frame objs defsyms cx script ls T st1) {reads : List (Str × Nat)}
    (hrd : ∀ nv ∈ reads, lookupLast nv.1 (defsyms.map fun kv => (kv.1, Val.num kv.2)) = some (.num nv.2) ∧
      assignCount nv.1 script = 0) :
    ∀ nv ∈ reads, lookupLast nv.1 st1.syms = some (.num nv.2) ∧ assignCount nv.1 ls = 0 := by
  intro nv h
  have h0 := (hrd nv h).2
  refine ⟨f.defsym _ _ h0 (hrd nv h).1, ?_⟩
  rw [f.count] at h0
  omega

end Ld

namespace C03
open W Ld

/-- the context in which the main script of partial mode is written. -/
def partialCx (d : Document) (o : Opts) : Ctx := { d := d, o := o, refPartial := true }

/-- the segments the main script of partial mode is written for: the emitted segments of the document, each rewritten by
`partialSegment` (its files replaced by the one partial object). The `seg` of a `_partial` theorem is such a rewritten
segment. -/
def partialSegs (d : Document) (o : Opts) (folder : Str) : List Segment :=
  (d.segments.filter fun s => shouldEmit o s.cond).map (partialSegment folder)

theorem partialSegs_emitted (d : Document) (o : Opts) (folder : Str) (s : Segment) (hs : s ∈ partialSegs d o folder) :
    shouldEmit o s.cond = true := by
  obtain ⟨s0, hs0, rfl⟩ := List.mem_map.1 hs
  obtain ⟨_, hi0⟩ := List.mem_filter.1 hs0
  simpa [partialSegment] using hi0

theorem partialSegs_split_emitted {d : Document} {o : Opts} {folder : Str} {pre post : List Segment} {seg : Segment}
    (hsplit : partialSegs d o folder = pre ++ seg :: post) : shouldEmit o seg.cond = true :=
  partialSegs_emitted d o folder seg (hsplit ▸ List.mem_append_cons_self)

theorem partialSegs_alloc (d : Document) (o : Opts) (folder : Str)
    (hall : ∀ s ∈ d.segments, shouldEmit o s.cond = true → s.allocSections ≠ []) :
    ∀ s ∈ partialSegs d o folder, shouldEmit (partialCx d o).o s.cond = true → s.allocSections ≠ [] := by
  intro s hs _
  obtain ⟨s0, hs0, rfl⟩ := List.mem_map.1 hs
  obtain ⟨hm0, hi0⟩ := List.mem_filter.1 hs0
  exact hall s0 hm0 (by simpa using hi0)

end C03

namespace Ld
open W

/-- a main script: the version comment, `begin_sections`, `add_segment` in the context `cx` over `segs` — every emitted
one with an allocatable section — and whatever follows. The ordinary script of multi-segment mode and the main script
of partial mode are the two instances (`MainScript.normal`, `MainScript.partial`). -/
structure MainScript (cx : Ctx) (segs : List Segment) (script : List Line) : Prop where
  syms : cx.emitSecSyms = true
  /-- for a segment without allocatable sections the output section `.<segment>` has no contents: ld drops it, and what it
  then does with the location counter and the symbols around it is outside what `Ld` claims (DESIGN §1). -/
  alloc : ∀ s ∈ segs, shouldEmit cx.o s.cond = true → s.allocSections ≠ []
  shape : ∃ (vc : Bool) (ls : List Line) (emitted : List Str) (T : List Line),
    addSegments cx [] segs = .ok (ls, emitted) ∧ script = versionComment vc ++ (beginSections cx ++ ls ++ T)

theorem MainScript.normal (d : Document) (o : Opts) (vc : Bool) (script : List Line)
    (hmulti : d.settings.singleSegmentMode = false) (h : generateNormal d o vc = .ok script)
    (hall : ∀ s ∈ d.segments, shouldEmit o s.cond = true → s.allocSections ≠ []) :
    MainScript { d := d, o := o } d.segments script := by
  obtain ⟨ls, emitted, hsegs, hS⟩ := (generateNormal_ok hmulti).1 h
  exact ⟨rfl, hall, vc, ls, emitted, _, hsegs, hS⟩

theorem MainScript.partial (d : Document) (o : Opts) (vc : Bool) (out : PartialOut) (h : generatePartial d o vc = .ok out)
    (hall : ∀ s ∈ d.segments, shouldEmit o s.cond = true → s.allocSections ≠ [])
    (folder : Str) (hfolder : d.settings.partialBuildSegmentsFolder = some folder) :
    MainScript (C03.partialCx d o) (C03.partialSegs d o folder) out.main := by
  obtain ⟨folder', ls, emitted, ps, hf', hps, rfl⟩ := generatePartial_ok.1 h
  rw [hfolder] at hf'; injection hf' with hf'; subst hf'
  exact ⟨rfl, C03.partialSegs_alloc d o folder hall, vc, ls, emitted, _, (partialSegments_ok hps).1, rfl⟩

theorem MainScript.core (cx : Ctx) (hsy : cx.emitSecSyms = true) (vc : Bool)
    (segs : List Segment) (ls : List Line) (emitted : List Str) (T : List Line)
    (hsegs : addSegments cx [] segs = .ok (ls, emitted))
    (hall : ∀ s ∈ segs, shouldEmit cx.o s.cond = true → s.allocSections ≠ []) :
    MainScript cx segs (versionComment vc ++ (beginSections cx ++ ls ++ T)) :=
  ⟨hsy, hall, vc, ls, emitted, T, hsegs, rfl⟩

/-- `link_frame` for a main script: the statements `ls` of the segments, `T` behind them, the state `st1` in which `ls`
is reached. -/
theorem MainScript.frame {cx : Ctx} {segs : List Segment} {script : List Line} (hS : MainScript cx segs script)
    (objs : List InSec) (defsyms : List (Str × Nat)) :
    ∃ (ls : List Line) (emitted : List Str) (T : List Line) (st1 : St),
      addSegments cx [] segs = .ok (ls, emitted) ∧ Frame objs defsyms cx script ls T st1 := by
  obtain ⟨_, _, vc, ls, emitted, T, hsegs, rfl⟩ := hS
  exact ⟨ls, emitted, T, (link_frame objs defsyms cx vc ls T).imp fun _ f => ⟨hsegs, f⟩⟩

/-- a main script cut at one segment: the state `st1` behind `begin_sections`, the statements `lsPre` of the segments in
front, `lsSeg` of the segment, `R` everything behind it. A structure in `Type`, so that the statements of a user can
speak of its parts by name (`c.lsPre`, `c.image`); `MainScript.cut` gives it under `Nonempty`. -/
structure MainCut (objs : List InSec) (defsyms : List (Str × Nat)) (cx : Ctx) (script : List Line)
    (pre : List Segment) (seg : Segment) where
  st1 : St
  lsPre : List Line
  em1 : List Str
  lsSeg : List Line
  em2 : List Str
  R : List Line
  start : Between st1
  dot : st1.dot = 0
  secs : st1.secs = []
  /-- what the script never assigns is in `st1` what `--defsym` made it: undefined, or its number. -/
  undef : ∀ n, assignCount n script = 0 → n ∉ defsyms.map (·.1) → lookupLast n st1.syms = none
  defsym : ∀ n x, assignCount n script = 0 →
    lookupLast n (defsyms.map fun kv => (kv.1, Val.num kv.2)) = some (.num x) → lookupLast n st1.syms = some (.num x)
  hpre : addSegments cx [] pre = .ok (lsPre, em1)
  hseg : addSegment cx em1 seg = .ok (lsSeg, em2)
  allocPre : ∀ s ∈ pre, shouldEmit cx.o s.cond = true → s.allocSections ≠ []
  allocSeg : shouldEmit cx.o seg.cond = true → seg.allocSections ≠ []
  /-- the state the segment is reached in. -/
  reached : Between (execK objs st1 lsPre (lsSeg ++ R))
  count : ∀ n, assignCount n script
    = assignCount n (beginSections cx) + (assignCount n lsPre + (assignCount n lsSeg + assignCount n R))
  hdrs : ∀ n, hdrCount n script = hdrCount n lsPre + (hdrCount n lsSeg + hdrCount n R)
  image : link objs defsyms script
    = imageOf (execK objs (execK objs (execK objs st1 lsPre (lsSeg ++ R)) lsSeg R) R [])

theorem cut_once_front {objs : List InSec} {defsyms : List (Str × Nat)} {cx : Ctx} {script : List Line} {pre : List Segment}
    {seg : Segment} (c : MainCut objs defsyms cx script pre seg) {n : Str} (h : assignCount n script ≤ 1)
    (hp : 1 ≤ assignCount n c.lsPre) : assignCount n c.lsPre ≤ 1 ∧ assignCount n c.lsSeg = 0 ∧ assignCount n c.R = 0 := by
  have := c.count n
  omega

/-- a main script cut at one segment (`link_frame`, then `segments_cut`): the segment is reached between output
sections. -/
theorem MainScript.cut {cx : Ctx} {segs : List Segment} {script : List Line} (hS : MainScript cx segs script)
    (objs : List InSec) (defsyms : List (Str × Nat))
    (pre : List Segment) (seg : Segment) (post : List Segment) (hsplit : segs = pre ++ seg :: post) :
    Nonempty (MainCut objs defsyms cx script pre seg) := by
  obtain ⟨ls, emitted, T, st1, hsegs, f⟩ := hS.frame objs defsyms
  subst hsplit
  obtain ⟨lsPre, em1, lsSeg, em2, lsPost, hpre, hseg, _, rfl, b2, hrun⟩ :=
    segments_cut objs cx hS.syms hsegs hS.alloc st1 f.between T
  rw [List.append_assoc] at b2
  refine ⟨⟨st1, lsPre, em1, lsSeg, em2, lsPost ++ T, f.between, f.dot, f.secs, f.undef, f.defsym, hpre, hseg,
    fun s hs => hS.alloc s (List.mem_append_left _ hs), hS.alloc seg List.mem_append_cons_self, b2, ?_, ?_, ?_⟩⟩
  · intro n; rw [f.count n]; simp only [assignCount_append, Nat.add_assoc]
  · intro n; rw [f.hdrs n]; simp only [hdrCount_append, Nat.add_assoc]
  · rw [f.image, hrun, execK_append (a := lsPost) (b := T), List.append_nil, List.append_assoc]

end Ld

end Slinky
