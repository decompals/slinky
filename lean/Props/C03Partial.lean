/-
  The main script of partial mode: what `generatePartial` returns as `main`. `partial_main_shape` spells it out to its
  end and serves the theorems about what stands behind the segments (Props/C13Final, C18Final, C18Discard); the theorems
  about the segments use `Ld.MainScript.partial`, which leaves the rest open. The object table `objs` is the table of the
  partial objects (with the sections `ld -r` gave them).
-/
import Props.C03Default
namespace Slinky.C03
open Slinky W Ld

/-- **the main script of partial mode is written around `add_segment` of `partialSegs`.** -/
theorem partial_main_shape (d : Document) (o : Opts) (vc : Bool) (out : PartialOut) (h : generatePartial d o vc = .ok out) :
    ∃ (folder : Str) (ls : List Line) (emitted : List Str),
      d.settings.partialBuildSegmentsFolder = some folder ∧
      addSegments (partialCx d o) [] (partialSegs d o folder) = .ok (ls, emitted) ∧
      out.main = versionComment vc ++ (beginSections (partialCx d o) ++ ls ++ (endSections (partialCx d o) emitted ++ topLevel d o)) := by
  obtain ⟨folder, ls, emitted, ps, hfolder, hps, rfl⟩ := generatePartial_ok.1 h
  exact ⟨folder, ls, emitted, hfolder, (partialSegments_ok hps).1, rfl⟩

/-- `final_default_placement` for the main script of partial mode. -/
theorem final_default_placement_partial (objs : List InSec) (d : Document) (o : Opts) (vc : Bool) (out : PartialOut)
    (h : generatePartial d o vc = .ok out)
    (hall : ∀ s ∈ d.segments, shouldEmit o s.cond = true → s.allocSections ≠ [])
    (defsyms : List (Str × Nat)) (folder : Str) (hfolder : d.settings.partialBuildSegmentsFolder = some folder)
    (pre post : List Segment) (seg : Segment) (hsplit : partialSegs d o folder = pre ++ seg :: post)
    (hfv : seg.fixedVram = none) (hfs : seg.fixedSymbol = none) (hfol : seg.followsSegment = none) (hcl : seg.vramClass = none) :
    ∃ os ∈ (link objs defsyms out.main).secs, os.name = c!"." ++ seg.name ∧ os.noload = false ∧ 1 ≤ os.align ∧
      match lastEmitted o none pre with
      | none => os.addr = Ld.alignUp (alignO seg.segmentStartAlign 0) os.align
      | some f => assignCount (d.settings.style.segVramEnd f.name) out.main ≤ 1 →
          ∃ e, (link objs defsyms out.main).sym (d.settings.style.segVramEnd f.name) = some e ∧
            os.addr = Ld.alignUp (alignO seg.segmentStartAlign e) os.align :=
  default_placement_main objs (MainScript.partial d o vc out h hall folder hfolder) defsyms pre post seg hsplit
    (partialSegs_split_emitted hsplit) hfv hfs hfol hcl

/-! ### the hypotheses are met, and the conclusion is about real numbers -/

def exDocP : Document :=
  { C04.exDoc with settings := { C04.exDoc.settings with partialBuildSegmentsFolder := some c!"segments" } }

/-- the partial objects of the two segments, with the sections `ld -r` gave them. -/
def exObjsP : List InSec :=
  [⟨c!"segments/boot.o", none, c!".text", 20, 4⟩, ⟨c!"segments/boot.o", none, c!".bss", 100, 8⟩,
   ⟨c!"segments/main.o", none, c!".text", 8, 4⟩, ⟨c!"segments/main.o", none, c!".data", 5, 1⟩]

/-- the main script of partial mode for the example document of `Props/Example.lean`: the same layout as the ordinary script —
`boot` ends at 0x80000080, `main` (no address, start alignment 64) is recorded there, its VRAM start symbol is that
address and its VRAM end lies 13 bytes behind; the symbols and the header occur once. -/
example : (match generatePartial exDocP C04.exOpts false with
    | .ok out =>
      decide (assignCount c!"main_VRAM" out.main = 1) && decide (hdrCount c!".main" out.main = 1)
      && decide (assignCount c!"boot_VRAM_END" out.main = 1)
      && decide ((partialSegs exDocP C04.exOpts c!"segments").map (·.name) = [c!"boot", c!"main"])
      && decide ((link exObjsP [] out.main).sym c!"boot_VRAM_END" = some 0x80000080)
      && decide ((link exObjsP [] out.main).sym c!"main_VRAM" = some 0x80000080)
      && decide ((link exObjsP [] out.main).sym c!"main_VRAM_END" = some 0x8000008D)
      && (link exObjsP [] out.main).secs.any (fun os => os.name = c!".main" && os.addr = 0x80000080 && os.size = 13)
    | .error _ => false) = true := by decide +kernel

end Slinky.C03
