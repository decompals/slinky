/-
  The example document of the whole-script theorems: two segments over four input sections, and the image `Ld.link`
  computes for its ordinary script, evaluated once (`exImage_eq`). The examples under those theorems read their values
  off it (`decide_with`).
-/
import Props.Final
namespace Slinky.C04
open Slinky W Ld

def exF (p : Str) : FileInfo := .mk p .object [] 0 [] [] [] [] [] ({} : Cond) .absent
def exDoc : Document :=
  { segments := [
      { name := c!"boot", fixedVram := some 0x80000000, allocSections := [c!".text", c!".data"], noloadSections := [c!".bss"],
        segmentEndAlign := some 16, files := [exF c!"a.o"] },
      { name := c!"main", allocSections := [c!".text", c!".data"], noloadSections := [c!".bss"],
        segmentStartAlign := some 64, files := [exF c!"b.o"] }] }
def exOpts : Opts := fun _ => none
def exObjs : List InSec :=
  [⟨c!"a.o", none, c!".text", 20, 4⟩, ⟨c!"a.o", none, c!".bss", 100, 8⟩, ⟨c!"b.o", none, c!".text", 8, 4⟩, ⟨c!"b.o", none, c!".data", 5, 1⟩]

/-- What `link exObjs [] script` evaluates to, written out (the fields of `#eval` on it; `exImage_eq` checks the literal,
so a change of the model that alters the image fails there and the literal is evaluated afresh). The kind symbols show
the known finding (`C05.kind_start_precedes_header`): `boot_alloc_VRAM` is the location counter in front of the header,
0, so `boot_alloc_VRAM_SIZE` is the end address. -/
def exImage : Image :=
  { emptied := false,
    syms := [(c!"__romPos", some 77), (c!"boot_ROM_START", some 0), (c!"boot_VRAM", some 0x80000000),
     (c!"boot_alloc_VRAM", some 0), (c!"boot_TEXT_START", some 0x80000000), (c!"boot_TEXT_END", some 0x80000014),
     (c!"boot_TEXT_SIZE", some 20), (c!"boot_DATA_START", some 0x80000014), (c!"boot_DATA_END", some 0x80000014),
     (c!"boot_DATA_SIZE", some 0), (c!"boot_alloc_VRAM_END", some 0x80000014),
     (c!"boot_alloc_VRAM_SIZE", some 0x80000014), (c!"boot_noload_VRAM", some 0x80000014),
     (c!"boot_BSS_START", some 0x80000018), (c!"boot_BSS_END", some 0x8000007C), (c!"boot_BSS_SIZE", some 100),
     (c!"boot_noload_VRAM_END", some 0x8000007C), (c!"boot_noload_VRAM_SIZE", some 104),
     (c!"boot_VRAM_END", some 0x80000080), (c!"boot_VRAM_SIZE", some 128), (c!"boot_ROM_END", some 32),
     (c!"boot_ROM_SIZE", some 32), (c!"main_ROM_START", some 64), (c!"main_VRAM", some 0x80000080),
     (c!"main_alloc_VRAM", some 0x80000080), (c!"main_TEXT_START", some 0x80000080),
     (c!"main_TEXT_END", some 0x80000088), (c!"main_TEXT_SIZE", some 8), (c!"main_DATA_START", some 0x80000088),
     (c!"main_DATA_END", some 0x8000008D), (c!"main_DATA_SIZE", some 5), (c!"main_alloc_VRAM_END", some 0x8000008D),
     (c!"main_alloc_VRAM_SIZE", some 13), (c!"main_noload_VRAM", some 0x8000008D),
     (c!"main_BSS_START", some 0x8000008D), (c!"main_BSS_END", some 0x8000008D), (c!"main_BSS_SIZE", some 0),
     (c!"main_noload_VRAM_END", some 0x8000008D), (c!"main_noload_VRAM_SIZE", some 0),
     (c!"main_VRAM_END", some 0x8000008D), (c!"main_VRAM_SIZE", some 13), (c!"main_ROM_END", some 77),
     (c!"main_ROM_SIZE", some 13)],
    secs := [⟨c!".boot", 0x80000000, 20, some 0, false, 4⟩, ⟨c!".boot.noload", 0x80000018, 100, none, true, 8⟩,
     ⟨c!".main", 0x80000080, 13, some 64, false, 4⟩, ⟨c!".main.noload", 0x8000008D, 0, none, true, 1⟩,
     ⟨c!".symtab", 0, 0, none, false, 1⟩, ⟨c!".strtab", 0, 0, none, false, 1⟩, ⟨c!".shstrtab", 0, 0, none, false, 1⟩],
    placed := [⟨⟨c!"a.o", none, c!".text", 20, 4⟩, 0x80000000, c!".boot"⟩,
     ⟨⟨c!"a.o", none, c!".bss", 100, 8⟩, 0x80000018, c!".boot.noload"⟩,
     ⟨⟨c!"b.o", none, c!".text", 8, 4⟩, 0x80000080, c!".main"⟩,
     ⟨⟨c!"b.o", none, c!".data", 5, 1⟩, 0x80000088, c!".main"⟩],
    discarded := [] }

theorem exImage_eq : (generateNormal exDoc exOpts false).toOption.map (link exObjs []) = some exImage := by
  decide +kernel

end Slinky.C04
