/-
  The per-file emitter `emitEntry`, stated once in a form proofs can use: its equation with the three layers named
  (`appendE`, `fileBody`, the sub-group part); "unchanged unless the fuel ran out" (`DivLe`) and "the fuel did not
  run out" as congruences of every construct of that equation, so that an induction on the fuel is one walk along it.
-/
import Props.Lemmas
namespace Slinky

def appendE {ε β} (A B : Except ε (List β)) : Except ε (List β) :=
  A.bind fun a => B.bind fun b => .ok (a ++ b)

theorem appendE_eq_ok {ε β} {A B : Except ε (List β)} {r : List β} :
    appendE A B = .ok r ↔ ∃ a b, A = .ok a ∧ B = .ok b ∧ r = a ++ b :=
  bind₂_eq_ok

theorem error_of_appendE {ε β} {A B : Except ε (List β)} {e : ε} (h : appendE A B = .error e) :
    A = .error e ∨ B = .error e := by
  rcases bind_eq_error.1 h with h | ⟨_, _, h⟩
  · exact .inl h
  · rcases bind_eq_error.1 h with h | ⟨_, _, h⟩
    · exact .inr h
    · nomatch h

@[simp] theorem appendE_ok_nil {ε β} (A : Except ε (List β)) : appendE A (.ok []) = A := by
  cases A <;> simp [appendE, Except.bind]

@[simp] theorem ok_nil_appendE {ε β} (B : Except ε (List β)) : appendE (.ok []) B = B := by
  cases B <;> simp [appendE, Except.bind]

@[simp] theorem concatMapE_nil {α β ε} (f : α → Except ε (List β)) : concatMapE f [] = .ok [] := rfl

theorem concatMapE_cons {α β ε} (f : α → Except ε (List β)) (a : α) (as : List α) :
    concatMapE f (a :: as) = appendE (f a) (concatMapE f as) := by
  rw [concatMapE]; cases f a <;> cases concatMapE f as <;> rfl

theorem concatMapE_singleton {α β ε} (f : α → Except ε (List β)) (a : α) : concatMapE f [a] = f a := by
  rw [concatMapE_cons, concatMapE_nil, appendE_ok_nil]

theorem concatMapE_append {α β ε} (f : α → Except ε (List β)) (l₁ l₂ : List α) :
    concatMapE f (l₁ ++ l₂) = appendE (concatMapE f l₁) (concatMapE f l₂) := by
  induction l₁ with
  | nil => simp
  | cons a as ih =>
    rw [List.cons_append, concatMapE_cons, concatMapE_cons, ih]
    cases f a <;> cases concatMapE f as <;> cases concatMapE f l₂ <;> simp [appendE, Except.bind]

theorem concatMapE_congr {α β ε} {f g : α → Except ε (List β)} {l : List α} (h : ∀ a ∈ l, f a = g a) :
    concatMapE f l = concatMapE g l := by
  induction l with
  | nil => rfl
  | cons a as ih =>
    rw [concatMapE_cons, concatMapE_cons, h a List.mem_cons_self, ih fun x hx => h x (List.mem_cons_of_mem _ hx)]

theorem concatMapE_pure {α β ε} (g : α → List β) (l : List α) :
    concatMapE (fun a => (.ok (g a) : Except ε (List β))) l = .ok (l.flatMap g) := by
  induction l with
  | nil => rfl
  | cons a as ih => rw [concatMapE_cons, ih]; rfl

theorem mem_of_concatMapE_ok {α β ε} {f : α → Except ε (List β)} {l : List α} {r : List β}
    (h : concatMapE f l = .ok r) {x : β} (hx : x ∈ r) : ∃ a ∈ l, ∃ ra, f a = .ok ra ∧ x ∈ ra := by
  induction l generalizing r with
  | nil => cases h; cases hx
  | cons a as ih =>
    rw [concatMapE_cons, appendE_eq_ok] at h
    obtain ⟨ra, rb, ha, hb, rfl⟩ := h
    rcases List.mem_append.1 hx with hx | hx
    · exact ⟨a, List.mem_cons_self, ra, ha, hx⟩
    · obtain ⟨a', ha', h'⟩ := ih hb hx
      exact ⟨a', List.mem_cons_of_mem _ ha', h'⟩

theorem subset_of_concatMapE_ok {α β ε} {f : α → Except ε (List β)} {l : List α} {r : List β}
    (h : concatMapE f l = .ok r) {a : α} (ha : a ∈ l) : ∃ ra, f a = .ok ra ∧ ∀ x ∈ ra, x ∈ r := by
  induction l generalizing r with
  | nil => cases ha
  | cons b bs ih =>
    rw [concatMapE_cons, appendE_eq_ok] at h
    obtain ⟨rb, rs, hb, hs, rfl⟩ := h
    rcases List.mem_cons.1 ha with rfl | ha
    · exact ⟨rb, hb, fun x hx => List.mem_append_left _ hx⟩
    · obtain ⟨ra, hra, hsub⟩ := ih hs ha
      exact ⟨ra, hra, fun x hx => List.mem_append_right _ (hsub x hx)⟩

theorem pairwise_of_concatMapE_ok {α β ε} {f : α → Except ε (List β)} {R : β → β → Prop} {l : List α} {r : List β}
    (h : concatMapE f l = .ok r) (hpiece : ∀ a ∈ l, ∀ ra, f a = .ok ra → ra.Pairwise R)
    (hcross : l.Pairwise fun a b => ∀ ra rb, f a = .ok ra → f b = .ok rb → ∀ x ∈ ra, ∀ y ∈ rb, R x y) :
    r.Pairwise R := by
  induction l generalizing r with
  | nil => cases h; exact .nil
  | cons b bs ih =>
    rw [concatMapE_cons, appendE_eq_ok] at h
    obtain ⟨rb, rs, hb, hs, rfl⟩ := h
    have hc := List.pairwise_cons.1 hcross
    refine List.pairwise_append.2 ⟨hpiece b List.mem_cons_self rb hb,
      ih hs (fun a ha => hpiece a (List.mem_cons_of_mem _ ha)) hc.2, fun x hx y hy => ?_⟩
    obtain ⟨a, ha, ra, hra, hya⟩ := mem_of_concatMapE_ok hs hy
    exact hc.1 a ha rb ra hb hra x hx y hya

theorem nodup_of_concatMapE_ok {α β ε} {f : α → Except ε (List β)} {l : List α} {r : List β}
    (h : concatMapE f l = .ok r) (hl : l.Nodup) (hpiece : ∀ a ∈ l, ∀ ra, f a = .ok ra → ra.Nodup)
    (hdis : ∀ a ∈ l, ∀ b ∈ l, a ≠ b → ∀ ra rb, f a = .ok ra → f b = .ok rb → ∀ x ∈ ra, x ∉ rb) : r.Nodup :=
  pairwise_of_concatMapE_ok h hpiece
    (hl.imp_of_mem fun ha hb hne ra rb hra hrb x hx _ hy e => hdis _ ha _ hb hne ra rb hra hrb x hx (e ▸ hy))

/-- when every `F a` is in turn `concatMapE H` over a list `G a` gives, the whole is `concatMapE H` over those lists
joined. -/
theorem concatMapE_flatten {α β γ ε} {F : α → Except ε (List β)} {G : α → Except ε (List γ)}
    {H : γ → Except ε (List β)} {l : List α} {ls : List β}
    (hstep : ∀ a ∈ l, ∀ u, F a = .ok u → ∃ lv, G a = .ok lv ∧ concatMapE H lv = .ok u)
    (h : concatMapE F l = .ok ls) : ∃ lv, concatMapE G l = .ok lv ∧ concatMapE H lv = .ok ls := by
  induction l generalizing ls with
  | nil => cases h; exact ⟨[], rfl, rfl⟩
  | cons a as ih =>
    rw [concatMapE_cons, appendE_eq_ok] at h
    obtain ⟨u, v, hu, hv, rfl⟩ := h
    obtain ⟨l1, e1, r1⟩ := hstep a List.mem_cons_self u hu
    obtain ⟨l2, e2, r2⟩ := ih (fun b hb => hstep b (List.mem_cons_of_mem _ hb)) hv
    exact ⟨l1 ++ l2, by rw [concatMapE_cons, e1, e2]; rfl, by rw [concatMapE_append, r1, r2]; rfl⟩

theorem error_of_concatMapE {α β ε} {f : α → Except ε (List β)} {l : List α} {e : ε}
    (h : concatMapE f l = .error e) : ∃ a ∈ l, f a = .error e := by
  induction l with
  | nil => cases h
  | cons a as ih =>
    rw [concatMapE_cons] at h
    rcases error_of_appendE h with h | h
    · exact ⟨a, List.mem_cons_self, h⟩
    · obtain ⟨x, hx, hfx⟩ := ih h
      exact ⟨x, List.mem_cons_of_mem _ hx, hfx⟩

theorem sectionLoop_cons_cons (f : Str → R (List Line)) (s t : Str) (rest : List Str) :
    sectionLoop f (s :: t :: rest)
      = (f s).bind fun a => (sectionLoop f (t :: rest)).bind fun b => .ok (a ++ [.blank] ++ b) := by
  simp only [sectionLoop]
  cases f s <;> cases sectionLoop f (t :: rest) <;> rfl

theorem mem_subgroupsOf {seg : Segment} {o k : Str} :
    o ∈ subgroupsOf seg k ↔ ∃ l, lookup k seg.sectionsSubgroups = some l ∧ o ∈ l := by
  unfold subgroupsOf
  cases lookup k seg.sectionsSubgroups <;> simp

theorem subgroupsOf_subset {seg : Segment} {o k : Str} (h : o ∈ subgroupsOf seg k) : o ∈ subgroupValues seg := by
  obtain ⟨l, e, ho⟩ := mem_subgroupsOf.1 h
  exact List.mem_flatten.2 ⟨l, List.mem_map.2 ⟨(k, l), lookup_mem e, rfl⟩, ho⟩

/-- `r'` is `r`, unless `r` is "fuel exhausted". -/
def DivLe {α} (r r' : R α) : Prop := r ≠ .error .diverge → r' = r

theorem DivLe.refl {α} (r : R α) : DivLe r r := fun _ => rfl

theorem DivLe.bind {α β} {x x' : R α} {g g' : α → R β} (hx : DivLe x x') (hg : ∀ a, DivLe (g a) (g' a)) :
    DivLe (x.bind g) (x'.bind g') := by
  intro h
  cases x with
  | error e => rw [hx (by intro he; rw [he] at h; exact h rfl)]; rfl
  | ok a => rw [hx (fun he => nomatch he)]; exact hg a h

theorem DivLe.ite {α} {c : Prop} [Decidable c] {a a' b b' : R α} (ha : DivLe a a') (hb : DivLe b b') :
    DivLe (if c then a else b) (if c then a' else b') := by
  split
  · exact ha
  · exact hb

theorem DivLe.appendE {β} {A A' B B' : R (List β)} (hA : DivLe A A') (hB : DivLe B B') :
    DivLe (appendE A B) (appendE A' B') :=
  hA.bind fun _ => hB.bind fun _ => .refl _

theorem DivLe.concatMapE {α β} {f g : α → R (List β)} {l : List α} (h : ∀ a ∈ l, DivLe (f a) (g a)) :
    DivLe (concatMapE f l) (concatMapE g l) := by
  induction l with
  | nil => exact .refl _
  | cons a as ih =>
    rw [concatMapE_cons, concatMapE_cons]
    exact (h a List.mem_cons_self).appendE (ih fun x hx => h x (List.mem_cons_of_mem _ hx))

theorem bind_ne_diverge {α β} {x : R α} {g : α → R β} (hx : x ≠ .error .diverge) (hg : ∀ a, g a ≠ .error .diverge) :
    x.bind g ≠ .error .diverge := by
  cases x with
  | error e => exact fun h => hx (Except.error.inj h ▸ rfl)
  | ok a => exact hg a

theorem ite_ne_diverge {α} {c : Prop} [Decidable c] {a b : R α} (ha : c → a ≠ .error .diverge)
    (hb : ¬c → b ≠ .error .diverge) : (if c then a else b) ≠ .error .diverge := by
  split
  · exact ha ‹_›
  · exact hb ‹_›

theorem appendE_ne_diverge {β} {A B : R (List β)} (hA : A ≠ .error .diverge) (hB : B ≠ .error .diverge) :
    appendE A B ≠ .error .diverge :=
  bind_ne_diverge hA fun _ => bind_ne_diverge hB fun _ => nofun

theorem concatMapE_ne_diverge {α β} {f : α → R (List β)} {l : List α} (h : ∀ a ∈ l, f a ≠ .error .diverge) :
    concatMapE f l ≠ .error .diverge := fun hc =>
  let ⟨a, ha, hf⟩ := error_of_concatMapE hc
  h a ha hf

/-- `emit_file` for the section `k`; `grp` is what the children of a group give under a base
directory. -/
def fileBody (cx : Ctx) (seg : Segment) (grp : Str → R (List Line)) (file : FileInfo) (k base : Str) :
    R (List Line) :=
  match file.kind with
  | .object => (liftPath (cx.esc cx.o file.path)).bind fun p =>
      .ok [.input (keepFor file.keep k) (display (pathPush base p)) none k seg.wildcardSections]
  | .archive => (liftPath (cx.esc cx.o file.path)).bind fun p =>
      .ok [.input (keepFor file.keep k) (display (pathPush base p)) (some file.subfile) k seg.wildcardSections]
  | .pad => .ok (if file.sect = k then [.addAssign c!"." (.hex file.padAmount)] else [])
  | .linkerOffset =>
      .ok (if file.sect = k then [linkerSym (cx.d.settings.style.linkerOffset file.linkerOffsetName) .dot] else [])
  | .group => (liftPath (cx.esc cx.o file.dir)).bind fun dir => grp (pathPush base dir)

@[simp] theorem emitEntry_zero (cx : Ctx) (seg : Segment) (secs : List Str) (f : FileInfo) (sec base : Str)
    (parents : List Str) : emitEntry cx seg secs 0 f sec base parents = .error .diverge := rfl

-- `rfl` up to the auxiliary matchers (see `W.writeSegment_ok`), once the verdict is known: `emit_file` asks
-- `should_emit_entry` a second time
set_option smartUnfolding false in
theorem emitEntry_succ (cx : Ctx) (seg : Segment) (secs : List Str) (n : Nat) (f : FileInfo) (sec base : Str)
    (parents : List Str) :
    emitEntry cx seg secs (n + 1) f sec base parents =
      if !shouldEmit cx.o f.cond then .ok [] else
      if sec ∈ parents then .error (.err .cyclicSubgroups) else
      concatMapE (fun k =>
        appendE
          (fileBody cx seg (fun b => concatMapE (fun c => emitEntry cx seg secs n c k b []) f.files) f k base)
          (if cx.refPartial || (f.sectionOrder.isEmpty && f.kind = .group) then .ok []
           else concatMapE (fun other => emitEntry cx seg secs n f other base (sec :: parents)) (subgroupsOf seg k)))
        (sectionsToEmitHere f.sectionOrder sec secs) := by
  rw [emitEntry]
  cases shouldEmit cx.o f.cond
  · rfl
  · rfl

theorem liftPath_eq_ok {r : Except ErrKind Str} {p : Str} : liftPath r = .ok p ↔ r = .ok p := by
  cases r <;> simp [liftPath]

theorem liftPath_ne_diverge (r : Except ErrKind Str) : liftPath r ≠ .error .diverge := by
  cases r <;> exact fun h => nomatch h

theorem fileBody_ne_diverge {cx : Ctx} {seg : Segment} {grp : Str → R (List Line)} {f : FileInfo} {k base : Str}
    (h : ∀ b, grp b ≠ .error .diverge) : fileBody cx seg grp f k base ≠ .error .diverge := by
  unfold fileBody
  cases f.kind with
  | object | archive => exact bind_ne_diverge (liftPath_ne_diverge _) fun _ => nofun
  | pad | linkerOffset => nofun
  | group => exact bind_ne_diverge (liftPath_ne_diverge _) fun _ => h _

theorem DivLe.fileBody {cx : Ctx} {seg : Segment} {grp grp' : Str → R (List Line)} {f : FileInfo} {k base : Str}
    (h : ∀ b, DivLe (grp b) (grp' b)) : DivLe (fileBody cx seg grp f k base) (fileBody cx seg grp' f k base) := by
  unfold Slinky.fileBody
  cases f.kind with
  | group => exact (DivLe.refl _).bind fun _ => h _
  | _ => exact .refl _

theorem emitEntry_divLe_add (cx : Ctx) (seg : Segment) (secs : List Str) (d : Nat) :
    ∀ (n : Nat) (f : FileInfo) (sec base : Str) (parents : List Str),
      DivLe (emitEntry cx seg secs n f sec base parents) (emitEntry cx seg secs (n + d) f sec base parents) := by
  intro n
  induction n with
  | zero => intro f sec base parents h; exact absurd rfl h
  | succ n ih =>
    intro f sec base parents
    rw [Nat.add_right_comm, emitEntry_succ cx seg secs (n + d), emitEntry_succ cx seg secs n]
    exact .ite (.refl _) (.ite (.refl _) (.concatMapE fun k _ =>
      .appendE (.fileBody fun b => .concatMapE fun c _ => ih c k b [])
        (.ite (.refl _) (.concatMapE fun o _ => ih f o base _))))

theorem emitEntry_divLe_succ (cx : Ctx) (seg : Segment) (secs : List Str) :
    ∀ (n : Nat) (f : FileInfo) (sec base : Str) (parents : List Str),
      DivLe (emitEntry cx seg secs n f sec base parents) (emitEntry cx seg secs (n + 1) f sec base parents) :=
  emitEntry_divLe_add cx seg secs 1

/-- what `emitEntry` reads: two runs agree on entries related by a `Rel` that keeps everything the equation looks
at and relates the children. -/
theorem emitEntry_congr {cx cx' : Ctx} {seg seg' : Segment} {secs : List Str} (Rel : FileInfo → FileInfo → Prop)
    (hpart : cx.refPartial = cx'.refPartial) (hsub : seg.sectionsSubgroups = seg'.sectionsSubgroups)
    (hcond : ∀ f f', Rel f f' → shouldEmit cx.o f.cond = shouldEmit cx'.o f'.cond)
    (hhere : ∀ f f', Rel f f' → ∀ sec, sectionsToEmitHere f.sectionOrder sec secs = sectionsToEmitHere f'.sectionOrder sec secs)
    (hplain : ∀ f f', Rel f f' →
      (f.sectionOrder.isEmpty && decide (f.kind = .group)) = (f'.sectionOrder.isEmpty && decide (f'.kind = .group)))
    (hbody : ∀ f f', Rel f f' → ∀ grp k base, fileBody cx seg grp f k base = fileBody cx' seg' grp f' k base)
    (hfiles : ∀ f f', Rel f f' → ∀ F F' : FileInfo → R (List Line), (∀ c c', Rel c c' → F c = F' c') →
      concatMapE F f.files = concatMapE F' f'.files) :
    ∀ (n : Nat) (f f' : FileInfo), Rel f f' → ∀ (sec base : Str) (parents : List Str),
      emitEntry cx seg secs n f sec base parents = emitEntry cx' seg' secs n f' sec base parents := by
  intro n
  induction n with
  | zero => intros; rfl
  | succ n ih =>
    intro f f' h sec base parents
    rw [emitEntry_succ, emitEntry_succ, hcond f f' h, hhere f f' h, hplain f f' h, hpart]
    simp only [hbody f f' h, subgroupsOf, hsub, ih f f' h]
    simp only [hfiles f f' h _ _ fun c c' hc => ih c c' hc _ _ _]

/-- what the emitter reads of the context and of the segment (use: `by apply emitEntry_env <;> rfl`). -/
theorem emitEntry_env {cx cx' : Ctx} {seg seg' : Segment} (ho : cx.o = cx'.o) (hesc : cx.esc = cx'.esc)
    (hpart : cx.refPartial = cx'.refPartial) (hst : cx.d.settings.style = cx'.d.settings.style)
    (hw : seg.wildcardSections = seg'.wildcardSections) (hsub : seg.sectionsSubgroups = seg'.sectionsSubgroups)
    (secs : List Str) (n : Nat) (f : FileInfo) (sec base : Str) (parents : List Str) :
    emitEntry cx seg secs n f sec base parents = emitEntry cx' seg' secs n f sec base parents :=
  emitEntry_congr Eq hpart hsub (fun _ _ h => h ▸ ho ▸ rfl) (fun _ _ h _ => h ▸ rfl) (fun _ _ h => h ▸ rfl)
    (fun _ _ h _ _ _ => by subst h; unfold fileBody; rw [ho, hesc, hst, hw])
    (fun _ _ h _ _ hF => by subst h; exact concatMapE_congr fun c _ => hF c c rfl) n f f rfl sec base parents

/-- the base directory `emit_section` hands to the files of a segment. -/
def C01.segBase (cx : Ctx) (seg : Segment) : R Str :=
  match liftPath (cx.esc cx.o cx.d.settings.basePath) with
  | .error e => .error e
  | .ok base0 =>
    if cx.refPartial then .ok base0
    else match liftPath (cx.esc cx.o seg.dir) with
      | .error e => .error e
      | .ok d => .ok (pathPush base0 d)

theorem emitSection_eq_bind (cx : Ctx) (seg : Segment) (sec : Str) (secs : List Str) :
    emitSection cx seg sec secs = (C01.segBase cx seg).bind fun base =>
      concatMapE (fun file => emitEntry cx seg secs (fuelFor seg) file sec base []) seg.files := by
  unfold emitSection C01.segBase
  cases liftPath (cx.esc cx.o cx.d.settings.basePath) with
  | error e => rfl
  | ok b =>
    cases cx.refPartial
    · cases liftPath (cx.esc cx.o seg.dir) <;> rfl
    · rfl

theorem emitSection_env {cx cx' : Ctx} {seg seg' : Segment} (ho : cx.o = cx'.o) (hesc : cx.esc = cx'.esc)
    (hpart : cx.refPartial = cx'.refPartial) (hst : cx.d.settings.style = cx'.d.settings.style)
    (hw : seg.wildcardSections = seg'.wildcardSections) (hsub : seg.sectionsSubgroups = seg'.sectionsSubgroups)
    (hbase : cx.d.settings.basePath = cx'.d.settings.basePath) (hdir : seg.dir = seg'.dir)
    (hfiles : seg.files = seg'.files) (sec : Str) (secs : List Str) :
    emitSection cx seg sec secs = emitSection cx' seg' sec secs := by
  have hb : C01.segBase cx seg = C01.segBase cx' seg' := by
    unfold C01.segBase; rw [ho, hesc, hpart, hbase, hdir]
  have hf : fuelFor seg = fuelFor seg' := by
    unfold fuelFor subgroupValues; rw [hfiles, hsub]
  rw [emitSection_eq_bind, emitSection_eq_bind, hb, hf, hfiles]
  simp only [emitEntry_env ho hesc hpart hst hw hsub]

-- see `W.writeSegment_ok`
set_option smartUnfolding false in
theorem segBase_ne_diverge (cx : Ctx) (seg : Segment) : C01.segBase cx seg ≠ .error .diverge :=
  bind_ne_diverge (liftPath_ne_diverge _) fun _ => by
    split
    · nofun
    · exact bind_ne_diverge (liftPath_ne_diverge _) fun _ => nofun

section sort
open List
variable {le : Str → Str → Bool}

theorem insertSorted_perm (le : Str → Str → Bool) (x : Str) : ∀ l, insertSorted le x l ~ x :: l
  | [] => .refl _
  | y :: ys => by
    unfold insertSorted
    split
    · exact .refl _
    · exact ((insertSorted_perm le x ys).cons y).trans (.swap x y ys)

theorem sortBy_perm_self (le : Str → Str → Bool) : ∀ l, sortBy le l ~ l
  | [] => .refl _
  | x :: xs => (insertSorted_perm le x _).trans ((sortBy_perm_self le xs).cons x)

theorem insertSorted_pairwise (htot : ∀ a b, le a b = true ∨ le b a = true)
    (htr : ∀ a b c, le a b = true → le b c = true → le a c = true) (x : Str) :
    ∀ l, l.Pairwise (le · · = true) → (insertSorted le x l).Pairwise (le · · = true)
  | [], _ => pairwise_singleton _ _
  | y :: ys, h => by
    unfold insertSorted
    split
    · rename_i hxy
      exact pairwise_cons.2 ⟨fun z hz => by
        rcases mem_cons.1 hz with rfl | hz
        · exact hxy
        · exact htr _ _ _ hxy (rel_of_pairwise_cons h hz), h⟩
    · rename_i hxy
      have hyx := (htot x y).resolve_left hxy
      refine pairwise_cons.2 ⟨fun z hz => ?_, insertSorted_pairwise htot htr x ys h.tail⟩
      rcases mem_cons.1 ((insertSorted_perm le x ys).mem_iff.1 hz) with rfl | hz
      · exact hyx
      · exact rel_of_pairwise_cons h hz

theorem sortBy_pairwise (htot : ∀ a b, le a b = true ∨ le b a = true)
    (htr : ∀ a b c, le a b = true → le b c = true → le a c = true) :
    ∀ l, (sortBy le l).Pairwise (le · · = true)
  | [] => .nil
  | x :: xs => insertSorted_pairwise htot htr x _ (sortBy_pairwise htot htr xs)

theorem sortBy_eq_of_perm (htot : ∀ a b, le a b = true ∨ le b a = true)
    (htr : ∀ a b c, le a b = true → le b c = true → le a c = true)
    (has : ∀ a b, le a b = true → le b a = true → a = b) {l₁ l₂ : List Str} (h : l₁ ~ l₂) :
    sortBy le l₁ = sortBy le l₂ :=
  Perm.eq_of_pairwise (fun a b _ _ => has a b) (sortBy_pairwise htot htr l₁) (sortBy_pairwise htot htr l₂)
    ((sortBy_perm_self le l₁).trans (h.trans (sortBy_perm_self le l₂).symm))
end sort

end Slinky
