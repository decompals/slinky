/-
  C03 in the image `Ld.link` returns: a segment with `fixed_vram: v` has its output section
  recorded at `v`.

  `segment_run` (Props/ImageDoc.lean) says where the allocatable output section of one segment
  opens, in terms of the value the address expression has *when the header is reached*.  For the
  literal of `fixed_vram` that value is the number itself (`C03.operand_fixed_vram`) as long as
  nobody has assigned a symbol spelled like the literal; `Ld.link_frame` carries "nobody has" from the
  `--defsym` table to the state the segments are reached in, so the only hypotheses left are decidable facts
  about the text: the script assigns no symbol spelled `0x%08X` of `v`, and no `--defsym` is spelled so.
-/
import Props.C03Hex
import Props.Example
import Props.MainScript
namespace Slinky.C03
open Slinky W Ld

theorem carry_none (st : St) (n : Str) (h : lookupLast n st.syms = none) : lookupLast n (carry st) = none :=
  carry_undefined st n h

/-- a name that neither the `--defsym` table nor the script defines is undefined at the end of
every evaluation. -/
theorem passes_none (objs : List InSec) (ls : List Line) (ds : List (Str × Val)) (n : Str)
    (hd : lookupLast n ds = none) (hc : assignCount n ls = 0) : ∀ k, lookupLast n (passes objs ls ds k).syms = none :=
  passes_unassigned objs ls ds n none (Or.inl rfl) hd hc

/-- **one segment whose header names an address** `a` that its own statements do not assign; `hop`: `a` evaluates to `x`
in every state that agrees on `a` with the state the segment is reached in. -/
theorem segment_operand_addr (objs : List InSec) (cx : Ctx) (hsy : cx.emitSecSyms = true) {em : List Str} {seg : Segment}
    {lsSeg : List Line} {em' : List Str} (hadd : addSegment cx em seg = .ok (lsSeg, em'))
    (hinc : shouldEmit cx.o seg.cond = true) (hne : seg.allocSections ≠ [])
    (st : St) (hb : Between st) (k : List Line)
    (a : Str) (ha : segAddr cx seg = some a) (hcnt : assignCount a lsSeg = 0)
    (x : Nat) (hop : ∀ st₁ : St, lookupLast a st₁.syms = lookupLast a st.syms → operand st₁ a = some x) :
    ∃ os ∈ (execK objs st lsSeg k).secs, os.name = c!"." ++ seg.name ∧ os.addr = x ∧ os.noload = false := by
  obtain ⟨cls, r, aS, aE, al, dN, lmaV, hS, hfront, _⟩ := addSegment_run objs cx hsy hadd hinc hne st hb k
  exact ⟨_, hS.sec, rfl, hS.addr_of_operand ha (hfront a hcnt) hop, rfl⟩

/-- **where the output sections of the segments with `fixed_vram` are recorded**, behind all
segments: each emitted segment with `fixed_vram: v` and an allocatable section has a record
`.<segment>` at address `v` — when the symbol table the segments are reached with holds no symbol
spelled like the literal and their statements assign none. -/
theorem segments_fixed_vram (objs : List InSec) (cx : Ctx) (hsy : cx.emitSecSyms = true) :
    ∀ (segs : List Segment) (em : List Str) (ls : List Line) (em' : List Str)
      (_ : addSegments cx em segs = .ok (ls, em'))
      (_ : ∀ s ∈ segs, shouldEmit cx.o s.cond = true → s.allocSections ≠ [])
      (st : St) (_ : Outside st) (r : Nat) (_ : lookupLast romPos st.syms = some (.num r)) (k : List Line)
      (seg : Segment) (v : Nat) (_ : seg ∈ segs) (_ : shouldEmit cx.o seg.cond = true) (_ : seg.fixedVram = some v)
      (_ : lookupLast (c!"0x" ++ toHex8 v) st.syms = none) (_ : assignCount (c!"0x" ++ toHex8 v) ls = 0),
      ∃ o ∈ (execK objs st ls k).secs, o.name = c!"." ++ seg.name ∧ o.addr = v ∧ o.noload = false := by
  intro segs em ls em' h hall st ho r hr k seg v hm hinc hfv hno hcnt
  obtain ⟨pre, post, rfl⟩ := List.append_of_mem hm
  obtain ⟨lsPre, em1, lsSeg, em2, lsPost, _, hseg, _, rfl, b2, hrun⟩ :=
    segments_cut objs cx hsy h hall st ⟨ho, r, hr⟩ k
  simp only [assignCount_append] at hcnt
  have hno2 : lookupLast (c!"0x" ++ toHex8 v) (execK objs st lsPre (lsSeg ++ lsPost ++ k)).syms = none := by
    rw [execK_keeps_count objs _ lsPre st _ (by omega)]; exact hno
  obtain ⟨os, hos, h1⟩ := segment_operand_addr objs cx hsy hseg hinc
    (hall seg hm hinc) _ b2 (lsPost ++ k) _ (by unfold segAddr; simp [hfv]) (by omega) v
    (fun st₁ e => operand_fixed_vram st₁ v (e.trans hno2))
  exact ⟨os, by rw [hrun]; exact execK_sec_kept objs _ lsPost k os hos, h1⟩

/-- `final_fixed_vram` for any writer context. -/
theorem fixed_vram_core (objs : List InSec) (cx : Ctx) (hsy : cx.emitSecSyms = true) (vc : Bool)
    (segs : List Segment) (ls : List Line) (emitted : List Str) (T : List Line)
    (hsegs : addSegments cx [] segs = .ok (ls, emitted))
    (hall : ∀ s ∈ segs, shouldEmit cx.o s.cond = true → s.allocSections ≠ [])
    (defsyms : List (Str × Nat))
    (seg : Segment) (v : Nat) (hm : seg ∈ segs) (hinc : shouldEmit cx.o seg.cond = true) (hfv : seg.fixedVram = some v)
    (hds : (c!"0x" ++ toHex8 v) ∉ defsyms.map (·.1))
    (hcnt : assignCount (c!"0x" ++ toHex8 v) (versionComment vc ++ (beginSections cx ++ ls ++ T)) = 0) :
    ∃ os ∈ (link objs defsyms (versionComment vc ++ (beginSections cx ++ ls ++ T))).secs, os.name = c!"." ++ seg.name ∧ os.addr = v ∧ os.noload = false := by
  -- in the state behind `begin_sections` nobody has defined a symbol spelled like the literal
  obtain ⟨st1, f⟩ := link_frame objs defsyms cx vc ls T
  obtain ⟨os, hos, h⟩ := segments_fixed_vram objs cx hsy segs [] ls emitted hsegs hall st1 f.between.out 0 f.rom T
    seg v hm hinc hfv (f.undef _ hcnt hds) (by rw [f.count] at hcnt; omega)
  exact ⟨os, by rw [f.image]; exact image_sec_kept objs _ T os hos, h⟩

/-- **C03 in the linked image, for the whole ordinary script of a document: `fixed_vram`.**
In the image `Ld.link` computes for the script slinky generates, every emitted segment with
`fixed_vram: v` has an output section `.<segment>` at address `v` — provided neither the script
nor the `--defsym` table defines a symbol spelled like the literal `0x%08X` of `v` (then the
literal would name that symbol). -/
theorem final_fixed_vram (objs : List InSec) (d : Document) (o : Opts) (vc : Bool) (script : List Line)
    (hmulti : d.settings.singleSegmentMode = false)
    (h : generateNormal d o vc = .ok script)
    (hall : ∀ s ∈ d.segments, shouldEmit o s.cond = true → s.allocSections ≠ [])
    (defsyms : List (Str × Nat))
    (seg : Segment) (v : Nat) (hm : seg ∈ d.segments) (hinc : shouldEmit o seg.cond = true) (hfv : seg.fixedVram = some v)
    (hds : (c!"0x" ++ toHex8 v) ∉ defsyms.map (·.1))
    (hcnt : assignCount (c!"0x" ++ toHex8 v) script = 0) :
    ∃ os ∈ (link objs defsyms script).secs, os.name = c!"." ++ seg.name ∧ os.addr = v ∧ os.noload = false := by
  obtain ⟨hsy, hall, vc, ls, emitted, T, hsegs, rfl⟩ := MainScript.normal d o vc script hmulti h hall
  exact fixed_vram_core objs _ hsy vc _ ls emitted T hsegs hall defsyms seg v hm hinc hfv hds hcnt

/-- `final_fixed_vram` for the main script of partial mode. -/
theorem final_fixed_vram_partial (objs : List InSec) (d : Document) (o : Opts) (vc : Bool) (out : PartialOut)
    (h : generatePartial d o vc = .ok out)
    (hall : ∀ s ∈ d.segments, shouldEmit o s.cond = true → s.allocSections ≠ [])
    (defsyms : List (Str × Nat)) (folder : Str) (hfolder : d.settings.partialBuildSegmentsFolder = some folder)
    (seg : Segment) (v : Nat) (hm : seg ∈ partialSegs d o folder) (hfv : seg.fixedVram = some v)
    (hds : (c!"0x" ++ toHex8 v) ∉ defsyms.map (·.1))
    (hcnt : assignCount (c!"0x" ++ toHex8 v) out.main = 0) :
    ∃ os ∈ (link objs defsyms out.main).secs, os.name = c!"." ++ seg.name ∧ os.addr = v ∧ os.noload = false := by
  obtain ⟨hsy, hall, vc, ls, emitted, T, hsegs, hmain⟩ := MainScript.partial d o vc out h hall folder hfolder
  rw [hmain] at hcnt ⊢
  exact fixed_vram_core objs _ hsy vc _ ls emitted T hsegs hall defsyms seg v hm (partialSegs_emitted d o folder seg hm) hfv hds hcnt

/-- the hypotheses are met and the conclusion is about a real address: the example document of
`Props/Example.lean` has `boot` at `fixed_vram: 0x80000000`. -/
example : (match generateNormal C04.exDoc C04.exOpts false with
    | .ok script =>
      decide (assignCount (c!"0x" ++ toHex8 0x80000000) script = 0)
      && (link C04.exObjs [] script).secs.any (fun os => os.name = c!".boot" && os.addr = 0x80000000 && !os.noload)
    | .error _ => false) = true := by decide_with C04.exImage_eq

end Slinky.C03
