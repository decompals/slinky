/-
  C13, the text of the symbols header — tied to the source text (lean/Src/Formats.lean, regenerated from
  linker_writer.rs `export_symbol_header` and version.rs on every run).
-/
import Src.Formats
import Slinkyv.Exports
import Props.Render
namespace Slinky.C13

theorem version_src : (c!"/* " ++ versionText ++ c!" */\n\n" : Str)
    = fmt Src.lw__export_symbol_header_0 [.n Src.version_major, .n Src.version_minor, .n Src.version_patch] :=
  rfl

/-- write by write; `writeln!` adds the line break of each declaration. The literals `_1` ("Version comment"), `_3`
and `_8` (empty) are the `contents` of `FailedWrite` errors, not text that is written. -/
theorem header_text_src (vc : Bool) (ty : Str) (asArray : Bool) (syms : List Str) :
    headerText vc ty asArray syms
      = (if vc then fmt Src.lw__export_symbol_header_0 [.n Src.version_major, .n Src.version_minor, .n Src.version_patch]
         else [])
        ++ fmt Src.lw__export_symbol_header_2 []
        ++ (syms.map (fun s => fmt Src.lw__export_symbol_header_6
              [.s ty, .s s, .s (if asArray then fmt Src.lw__export_symbol_header_4 [] else fmt Src.lw__export_symbol_header_5 [])]
              ++ c!"\n")).flatten
        ++ fmt Src.lw__export_symbol_header_7 [] := by
  rw [← version_src]
  have h6 : (fun s : Str => fmt Src.lw__export_symbol_header_6
              [.s ty, .s s, .s (if asArray then fmt Src.lw__export_symbol_header_4 [] else fmt Src.lw__export_symbol_header_5 [])]
              ++ c!"\n")
      = (fun s => c!"extern " ++ ty ++ c!" " ++ s ++ (if asArray then c!"[]" else []) ++ c!";\n") := by
    funext s
    unfold Src.lw__export_symbol_header_6 Src.lw__export_symbol_header_4 Src.lw__export_symbol_header_5
    cases asArray <;> simp only [fmtNorm] <;> rfl
  rw [h6]
  unfold headerText Src.lw__export_symbol_header_2 Src.lw__export_symbol_header_7
  simp only [fmtNorm]

theorem counts_src : Src.lw__export_symbol_header_count = 9 := rfl

end Slinky.C13
