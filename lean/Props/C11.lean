/-
  C11 — partial linking produces the same layout as one-step linking.
-/
import Props.C01
namespace Slinky.C11
open Slinky W

/-- **same input statements.** For every section, the statements the partial sub-script of a
segment holds (inputs with `KEEP`, pads, linker offsets, in order) are exactly those the
ordinary script holds for that segment and section. -/
theorem same_statements (d : Document) (o : Opts) (esc : Opts → Str → Except ErrKind Str) (seg : Segment) (sec : Str) (secs : List Str) :
    emitSection { d := d, o := o, emitKindSyms := false, emitSecSyms := false, esc := esc } seg sec secs
      = emitSection { d := d, o := o, esc := esc } seg sec secs := by
  apply emitSection_env <;> rfl

/-- **one partial script per emitted segment, in order, by name; none for an excluded one.** -/
theorem one_script_per_emitted_segment (d : Document) (o : Opts) (vc : Bool) (folder : Str)
    (esc : Opts → Str → Except ErrKind Str) :
    ∀ (segs : List Segment) (em : List Str) (ls : List Line) (em' : List Str) (ps : List (Str × List Line)),
      partialSegments d o vc folder esc em segs = .ok (ls, em', ps) →
      ps.map (·.1) = (segs.filter (fun s => shouldEmit o s.cond)).map (·.name) := by
  intro segs em ls em' ps h
  refine mapE_ok_map (fun s b hb => ?_) (W.partialSegments_ok h).2
  unfold W.partScript at hb
  split at hb
  · cases hb
  · cases hb; rfl

/-- **the main script places exactly the one partial object in every group**: with
`reference_partial_objects` the segment handed to the main writer has the single file
`<partial_build_segments_folder>/<name>.o`, and each of its sections gets one statement for it
(no `KEEP`, no sub-groups, the segment's own wildcard flag), under `base_path` without the
segment `dir`. -/
theorem main_places_partial_object (d : Document) (o : Opts) (esc : Opts → Str → Except ErrKind Str)
    (folder : Str) (seg : Segment) (sec : Str) (secs : List Str) (base q : Str)
    (hb : esc o d.settings.basePath = .ok base)
    (hq : esc o (pathPush folder (seg.name ++ c!".o")) = .ok q) :
    emitSection { d := d, o := o, refPartial := true, esc := esc } (partialSegment folder seg) sec secs
      = .ok [.input false (display (pathPush base q)) none sec seg.wildcardSections] := by
  have hbase : C01.segBase { d := d, o := o, refPartial := true, esc := esc } (partialSegment folder seg) = .ok base := by
    simp only [C01.segBase, hb, liftPath, if_true]
  rw [emitSection_eq_bind, hbase, fuelFor]
  exact (Slinky.concatMapE_singleton _ _).trans
    (C01.object_placed_once _ (partialSegment folder seg) secs _ _ _ _ sec base [] q (C01.shouldEmit_empty o) List.not_mem_nil hq (Or.inl rfl))

/-- **same ROM statements**: `C04.segmentRom` (the ROM statements `C04.addSegment_rom` finds in
what `add_segment` writes, in every writer context) is the same for the segment handed to the main
writer as for the original: the two differ only in the file list, which `segmentRom` does not read. -/
theorem main_same_rom (st : Style) (folder : Str) (seg : Segment) :
    C04.segmentRom st (partialSegment folder seg) = C04.segmentRom st seg := rfl

/-- missing `partial_build_segments_folder` is an error, not a silent default. -/
theorem missing_folder_is_error (d : Document) (o : Opts) (vc : Bool) (h : d.settings.partialBuildSegmentsFolder = none) :
    generatePartial d o vc = .error (.err .missingRequiredField) := by
  simp [generatePartial, h]

end Slinky.C11
