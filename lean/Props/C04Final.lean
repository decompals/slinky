/-
  C04 in the image `Ld.link` returns (not only in the state behind a fragment). `segments_rom_symbols` follows the ROM
  counter and the per-segment ROM *symbols* through all segments, and the symbols are carried to the end of the script: a
  symbol assigned among some statements keeps the value it has behind them when the script assigns it once (`Once`, by
  `Ld.execK_keeps_count`). `C04.image_rom_recurrence` (Props/C04.lean, through Props/ImageRom.lean) is
  `segments_rom_symbols` for the ROM counter alone.
-/
import Props.Example
import Props.MainScript
namespace Slinky.C04
open Slinky W Ld

theorem symOf_linkerSym (s : Str) (e : Expr) (hs : s ≠ c!".") : symOf (linkerSym s e) = some s :=
  if_neg hs

theorem segment_rom_start (objs : List InSec) (cx : Ctx) (seg : Segment) (cls alloc noload : List Line)
    (hcls : ∀ l ∈ cls, OuterLine l ∧ symOf l ≠ some romPos)
    (st : St) (ho : Outside st) (r : Nat) (hr : lookupLast romPos st.syms = some (.num r)) (k : List Line)
    (hc : assignCount (cx.d.settings.style.segRomStart seg.name) (segmentLines cx seg cls alloc noload) ≤ 1) :
    lookupLast (cx.d.settings.style.segRomStart seg.name) (execK objs st (segmentLines cx seg cls alloc noload) k).syms
      = some (.num (alignO seg.segmentStartAlign r)) := by
  rw [segmentLines_parts] at hc ⊢
  rw [← List.append_assoc, execK_append, execK_keeps_count objs _ _ _ k ?_]
  · exact (head_image objs cx seg cls hcls st ho r hr _).2.2.2.2.2
  · -- the head assigns the name, so what follows does not
    have : 1 ≤ assignCount (cx.d.settings.style.segRomStart seg.name) (segHead cx seg) :=
      assignCount_pos_iff.2 (by rw [assigned_segHead]; simp)
    simp only [assignCount_append] at hc ⊢
    omega

theorem romStart_assigned (cx : Ctx) (seg : Segment) (cls alloc noload : List Line) :
    1 ≤ assignCount (cx.d.settings.style.segRomStart seg.name) (segmentLines cx seg cls alloc noload) :=
  assignCount_pos_iff.2 (by rw [assigned_segmentLines, assigned_segHead]; simp)

theorem romEnd_assigned (cx : Ctx) (seg : Segment) (cls alloc noload : List Line) :
    1 ≤ assignCount (cx.d.settings.style.segRomEnd seg.name) (segmentLines cx seg cls alloc noload) :=
  assignCount_pos_iff.2 (by rw [assigned_segmentLines, assigned_segTail]; simp)

/-- what the ROM symbols hold in `st'`, behind the statements `ls` of the emitted segments `zs` (each with the size of
its allocatable output section): the recurrence, for the names that `ls` assigns once. -/
def RomSyms (sty : Style) (r : Nat) (zs : List (Segment × Nat)) (ls : List Line) (st' : St) : Prop :=
  ∀ (pre post : List (Segment × Nat)) (seg : Segment) (size : Nat), zs = pre ++ (seg, size) :: post →
    (assignCount (sty.segRomStart seg.name) ls ≤ 1 →
      lookupLast (sty.segRomStart seg.name) st'.syms = some (.num (alignO seg.segmentStartAlign (romFold r pre)))) ∧
    (assignCount (sty.segRomEnd seg.name) ls ≤ 1 →
      lookupLast (sty.segRomEnd seg.name) st'.syms = some (.num (romFold r (pre ++ [(seg, size)])))) ∧
    1 ≤ assignCount (sty.segRomStart seg.name) ls ∧ 1 ≤ assignCount (sty.segRomEnd seg.name) ls

theorem romFold_append (r : Nat) (a b : List (Segment × Nat)) : romFold r (a ++ b) = romFold (romFold r a) b :=
  Ld.romFold_append r a b

theorem RomSyms.snoc {sty : Style} {r : Nat} {seg : Segment} {size : Nat} {zs : List (Segment × Nat)} {done a : List Line} {st : St}
    (objs : List InSec) (k : List Line) (h : RomSyms sty r zs done st)
    (hs : Once (sty.segRomStart seg.name) a (execK objs st a k) (alignO seg.segmentStartAlign (romFold r zs)))
    (he : Once (sty.segRomEnd seg.name) a (execK objs st a k) (romFold r (zs ++ [(seg, size)]))) :
    RomSyms sty r (zs ++ [(seg, size)]) (done ++ a) (execK objs st a k) := by
  intro pre post sg sz hsplit
  rcases List.eq_nil_or_concat post with rfl | ⟨q, x, rfl⟩
  · obtain ⟨rfl, e⟩ := List.append_inj' hsplit rfl
    obtain ⟨rfl, rfl⟩ := Prod.mk.inj (List.cons.inj e).1
    exact ⟨(hs.front done).2, (he.front done).2, (hs.front done).1, (he.front done).1⟩
  · rw [List.concat_eq_append, ← List.cons_append, ← List.append_assoc] at hsplit
    obtain ⟨rfl, _⟩ := List.append_inj' hsplit rfl
    obtain ⟨g1, g2, g3, g4⟩ := h pre q sg sz rfl
    exact ⟨(Once.behind ⟨g3, g1⟩ objs a k).2, (Once.behind ⟨g4, g2⟩ objs a k).2, (Once.behind ⟨g3, g1⟩ objs a k).1,
      (Once.behind ⟨g4, g2⟩ objs a k).1⟩

theorem segments_rom_symbols (objs : List InSec) (cx : Ctx) (hsy : cx.emitSecSyms = true) :
    ∀ (segs : List Segment) (em : List Str) (ls : List Line) (em' : List Str)
      (_ : addSegments cx em segs = .ok (ls, em'))
      (_ : ∀ s ∈ segs, shouldEmit cx.o s.cond = true → s.allocSections ≠ [])
      (st : St) (_ : Outside st) (r : Nat) (_ : lookupLast romPos st.syms = some (.num r)) (k : List Line),
      ∃ (zs : List (Segment × Nat)) (st' : St),
        st' = execK objs st ls k ∧ Outside st' ∧
        zs.map (·.1) = segs.filter (fun s => shouldEmit cx.o s.cond) ∧
        lookupLast romPos st'.syms = some (.num (romFold r zs)) ∧
        (∀ sz ∈ zs, ∃ o ∈ st'.secs, o.name = c!"." ++ sz.1.name ∧ o.size = sz.2 ∧ o.noload = false) ∧
        RomSyms cx.d.settings.style r zs ls st' := by
  intro segs em ls em' h hall st ho r hr k
  obtain ⟨r', o', hr', zs, hz, hrom, hsecs, hsyms⟩ := segments_run objs cx hsy
    (I := fun pre done st' r' => ∃ zs : List (Segment × Nat), zs.map (·.1) = pre.filter (fun s => shouldEmit cx.o s.cond) ∧
      r' = romFold r zs ∧
      (∀ sz ∈ zs, ∃ o ∈ st'.secs, o.name = c!"." ++ sz.1.name ∧ o.size = sz.2 ∧ o.noload = false) ∧
      RomSyms cx.d.settings.style r zs done st')
    h hall ho hr k ⟨[], rfl, rfl, (fun _ h => nomatch h),
      fun pre _ _ _ h => absurd h.symm (List.append_ne_nil_of_right_ne_nil _ (List.cons_ne_nil _ _))⟩
    (fun h he => by
      obtain ⟨zs, hz, hrest⟩ := h
      exact ⟨zs, by rw [hz, List.filter_append, List.filter_cons, he]; simp, hrest⟩)
    (fun {seg cls alloc noload aS aE} => fun h he hcls hS => by
      obtain ⟨zs, hz, rfl, hsecs, hsyms⟩ := h
      refine ⟨zs ++ [(seg, aE - aS)], by rw [List.map_append, hz, List.filter_append, List.filter_cons, he]; simp,
        by rw [romFold_append]; rfl, fun sz hsz => ?_,
        hsyms.snoc objs _ ⟨romStart_assigned cx seg cls alloc noload,
            segment_rom_start objs cx seg cls alloc noload hcls _ hS.reached _ hS.reachedRom _⟩
          ⟨romEnd_assigned cx seg cls alloc noload, fun _ => by rw [hS.romEnd, romFold_append]; rfl⟩⟩
      rcases List.mem_append.1 hsz with hsz | hsz
      · obtain ⟨o, ho, h3⟩ := hsecs sz hsz
        exact ⟨o, execK_sec_kept objs _ _ _ o ho, h3⟩
      · cases List.mem_singleton.1 hsz
        exact ⟨_, hS.sec, rfl, rfl, rfl⟩)
  exact ⟨zs, _, rfl, o', hz, hrom ▸ hr', hsecs, hsyms⟩

/-- the ROM symbols in the image, for any script built around `add_segment` of a segment list. -/
theorem final_rom_core (objs : List InSec) (cx : Ctx) (hsy : cx.emitSecSyms = true) (vc : Bool)
    (segs : List Segment) (ls : List Line) (emitted : List Str) (T : List Line)
    (hsegs : addSegments cx [] segs = .ok (ls, emitted))
    (hall : ∀ s ∈ segs, shouldEmit cx.o s.cond = true → s.allocSections ≠ [])
    (defsyms : List (Str × Nat)) :
    let script := versionComment vc ++ (beginSections cx ++ (ls ++ T))
    ∃ zs : List (Segment × Nat),
      zs.map (·.1) = segs.filter (fun s => shouldEmit cx.o s.cond) ∧
      (∀ sz ∈ zs, ∃ os ∈ (link objs defsyms script).secs, os.name = c!"." ++ sz.1.name ∧ os.size = sz.2 ∧ os.noload = false) ∧
      ∀ (pre post : List (Segment × Nat)) (seg : Segment) (size : Nat), zs = pre ++ (seg, size) :: post →
        (assignCount (cx.d.settings.style.segRomStart seg.name) script ≤ 1 →
          (link objs defsyms script).sym (cx.d.settings.style.segRomStart seg.name)
            = some (alignO seg.segmentStartAlign (romFold 0 pre))) ∧
        (assignCount (cx.d.settings.style.segRomEnd seg.name) script ≤ 1 →
          (link objs defsyms script).sym (cx.d.settings.style.segRomEnd seg.name)
            = some (romFold 0 (pre ++ [(seg, size)]))) := by
  intro script
  obtain ⟨st1, f⟩ := link_frame objs defsyms cx vc ls T
  rw [List.append_assoc] at f
  rw [f.image]
  obtain ⟨zs, _, rfl, _, hz, _, hsecs, hsyms⟩ :=
    segments_rom_symbols objs cx hsy segs [] ls emitted hsegs hall st1 f.between.out 0 f.rom T
  refine ⟨zs, hz, fun sz hsz => ?_, fun pre post seg size hsplit => ?_⟩
  · obtain ⟨os, hos, g⟩ := hsecs sz hsz
    exact ⟨os, image_sec_kept objs _ T os hos, g⟩
  · obtain ⟨h1, h2, h3, h4⟩ := hsyms pre post seg size hsplit
    constructor <;> intro hcnt <;> rw [f.count] at hcnt
    · exact Once.image ⟨h3, h1⟩ objs T (Nat.le_trans (Nat.le_add_left _ _) hcnt)
    · exact Once.image ⟨h4, h2⟩ objs T (Nat.le_trans (Nat.le_add_left _ _) hcnt)

/-- **C04 in the linked image, for the whole ordinary script of a document.** With `zs` the sizes of the output
sections `.<segment>` of the emitted segments in the image: each emitted segment's ROM start symbol is the ROM end of
the emitted segment before it (0 for the first) rounded up to its start alignment, and its ROM end symbol is that start
plus the size of its allocatable output section only, rounded up to its end alignment — for every ROM symbol name the
script assigns once (for a name assigned twice the recurrence still holds for the ROM counter itself:
`image_rom_recurrence`). -/
theorem final_rom_symbols (objs : List InSec) (d : Document) (o : Opts) (vc : Bool) (script : List Line)
    (hmulti : d.settings.singleSegmentMode = false)
    (h : generateNormal d o vc = .ok script)
    (hall : ∀ s ∈ d.segments, shouldEmit o s.cond = true → s.allocSections ≠ [])
    (defsyms : List (Str × Nat)) :
    ∃ zs : List (Segment × Nat),
      zs.map (·.1) = d.segments.filter (fun s => shouldEmit o s.cond) ∧
      (∀ sz ∈ zs, ∃ os ∈ (link objs defsyms script).secs, os.name = c!"." ++ sz.1.name ∧ os.size = sz.2 ∧ os.noload = false) ∧
      ∀ (pre post : List (Segment × Nat)) (seg : Segment) (size : Nat), zs = pre ++ (seg, size) :: post →
        (assignCount (d.settings.style.segRomStart seg.name) script ≤ 1 →
          (link objs defsyms script).sym (d.settings.style.segRomStart seg.name)
            = some (alignO seg.segmentStartAlign (romFold 0 pre))) ∧
        (assignCount (d.settings.style.segRomEnd seg.name) script ≤ 1 →
          (link objs defsyms script).sym (d.settings.style.segRomEnd seg.name)
            = some (romFold 0 (pre ++ [(seg, size)]))) := by
  obtain ⟨hsy, hall, vc, ls, emitted, T, hsegs, rfl⟩ := MainScript.normal d o vc script hmulti h hall
  rw [List.append_assoc]
  exact final_rom_core objs _ hsy vc _ ls emitted T hsegs hall defsyms

/-- **the segment part of the main script of partial mode is `add_segment`, in the reference-to-partial-object context,
of the emitted segments, each with the one partial object as its file list.** -/
theorem partialSegments_main (d : Document) (o : Opts) (vc : Bool) (folder : Str) (esc : Opts → Str → Except ErrKind Str) :
    ∀ (segs : List Segment) (em : List Str) (ls : List Line) (em' : List Str) (ps : List (Str × List Line)),
      partialSegments d o vc folder esc em segs = .ok (ls, em', ps) →
      addSegments { d := d, o := o, refPartial := true, esc := esc } em
        ((segs.filter fun s => shouldEmit o s.cond).map (partialSegment folder)) = .ok (ls, em') := by
  intro segs em ls em' ps h
  exact (partialSegments_ok h).1

/-- `final_rom_symbols` for the main script of partial mode; `objs` are the partial objects with the sections `ld -r`
gave them. -/
theorem final_rom_symbols_partial (objs : List InSec) (d : Document) (o : Opts) (vc : Bool) (out : PartialOut)
    (h : generatePartial d o vc = .ok out)
    (hall : ∀ s ∈ d.segments, shouldEmit o s.cond = true → s.allocSections ≠ [])
    (defsyms : List (Str × Nat)) :
    ∃ (folder : Str) (zs : List (Segment × Nat)),
      d.settings.partialBuildSegmentsFolder = some folder ∧
      zs.map (·.1) = (d.segments.filter (fun s => shouldEmit o s.cond)).map (partialSegment folder) ∧
      (∀ sz ∈ zs, ∃ os ∈ (link objs defsyms out.main).secs, os.name = c!"." ++ sz.1.name ∧ os.size = sz.2 ∧ os.noload = false) ∧
      ∀ (pre post : List (Segment × Nat)) (seg : Segment) (size : Nat), zs = pre ++ (seg, size) :: post →
        (assignCount (d.settings.style.segRomStart seg.name) out.main ≤ 1 →
          (link objs defsyms out.main).sym (d.settings.style.segRomStart seg.name)
            = some (alignO seg.segmentStartAlign (romFold 0 pre))) ∧
        (assignCount (d.settings.style.segRomEnd seg.name) out.main ≤ 1 →
          (link objs defsyms out.main).sym (d.settings.style.segRomEnd seg.name)
            = some (romFold 0 (pre ++ [(seg, size)]))) := by
  obtain ⟨folder, _, _, _, hfolder, _⟩ := generatePartial_ok.1 h
  obtain ⟨hsy, hall, vc, ls, emitted, T, hsegs, hmain⟩ := MainScript.partial d o vc out h hall folder hfolder
  rw [hmain, List.append_assoc]
  obtain ⟨zs, hz, hrest⟩ := final_rom_core objs _ hsy vc _ ls emitted T hsegs hall defsyms
  exact ⟨folder, zs, hfolder, hz.trans (List.filter_eq_self.2 fun s hs => C03.partialSegs_emitted d o folder s hs), hrest⟩

/-! ### the hypotheses are met, and the conclusion is about real numbers -/

/-- the script of the example document assigns each ROM symbol once (the hypothesis of
`final_rom_symbols`), and the image has the values the recurrence gives: `boot` loads at 0 and
ends at 20 rounded up to 16 = 32 (its 100 bytes of noload data take no ROM), `main` loads at 32
rounded up to 64 and ends 13 bytes later. -/
example : (match generateNormal exDoc exOpts false with
    | .ok script =>
      decide (assignCount c!"boot_ROM_START" script = 1) && decide (assignCount c!"main_ROM_END" script = 1)
      && decide ((link exObjs [] script).sym c!"boot_ROM_START" = some 0)
      && decide ((link exObjs [] script).sym c!"boot_ROM_END" = some 32)
      && decide ((link exObjs [] script).sym c!"main_ROM_START" = some 64)
      && decide ((link exObjs [] script).sym c!"main_ROM_END" = some 77)
    | .error _ => false) = true := by decide_with exImage_eq

end Slinky.C04
