/-
  C10 in the linked image: **the size symbol of a vram class** is the class end minus the class start (as a 32-bit value)
  — from `class_start_kept_gen` (the start), `class_end_max` (the end), and the first statements of `end_sections` (one
  `SIZE = END - START` per class with an emitted member).
-/
import Props.C04
import Props.C10End
import Props.C18Final
namespace Slinky.C10
open Slinky W Ld

theorem findClass_name_mem (d : Document) (c : Str) (vcl : VramClass) (h : findClass d c = some vcl) :
    c ∈ d.vramClasses.map (·.name) := by
  have hm := C04.findClass_mem d c vcl h
  unfold findClass at h
  have hp := List.find?_some h
  exact List.mem_map.2 ⟨vcl, hm, of_decide_eq_true hp⟩

/-- `final_class_size` for any writer context and any prologue that gives the start symbol `v`; the end symbol holds the
largest VRAM end of the emitted members. -/
theorem class_size_core (objs : List InSec) (cx : Ctx) (hsy : cx.emitSecSyms = true) (vc : Bool)
    (segs : List Segment) (ls : List Line) (emitted : List Str) (T : List Line)
    (hsegs : addSegments cx [] segs = .ok (ls, emitted))
    (hall : ∀ s ∈ segs, shouldEmit cx.o s.cond = true → s.allocSections ≠ [])
    (defsyms : List (Str × Nat)) (c : Str) (vcl : VramClass) (v : Nat)
    (hused : ∃ s ∈ segs, shouldEmit cx.o s.cond = true ∧ s.vramClass = some c)
    (hfind : findClass cx.d c = some vcl) (reads : List (Str × Nat)) (hI : IntroGives objs cx c vcl reads v)
    {script : List Line} (hscript : script = versionComment vc ++ (beginSections cx ++ ls ++ (endSections cx emitted ++ T)))
    (hrd : ∀ nv ∈ reads, lookupLast nv.1 (defsyms.map fun kv => (kv.1, Val.num kv.2)) = some (.num nv.2) ∧
      assignCount nv.1 script = 0)
    (hcs : assignCount (cx.d.settings.style.classStart c) script ≤ 1)
    (hce : assignCount (cx.d.settings.style.classEnd c) script ≤ endAssigns cx.o c false segs)
    (hcz : assignCount (cx.d.settings.style.classSize c) script ≤ 1) :
    ∃ vs : List (Segment × Nat),
      vs.map (·.1) = segs.filter (fun s => decide (shouldEmit cx.o s.cond = true ∧ s.vramClass = some c)) ∧
      (link objs defsyms script).sym (cx.d.settings.style.classStart c) = some v ∧
      (link objs defsyms script).sym (cx.d.settings.style.classEnd c) = some (maxEnds 0 vs) ∧
      (link objs defsyms script).sym (cx.d.settings.style.classSize c) = some ((maxEnds 0 vs + M32 - v % M32) % M32) := by
  have hin : c ∈ emitted := member_introduced cx c segs [] ls emitted hsegs (Or.inr hused)
  -- the statements behind the segments: the sizes of the classes in front of `c`, the size of `c`, the rest
  have hmem : Line.assign (cx.d.settings.style.classSize c) (.sub (cx.d.settings.style.classEnd c) (cx.d.settings.style.classStart c))
      false false true ∈ C18.sizeLines cx emitted :=
    List.mem_map.2 ⟨c, List.mem_filter.2 ⟨(mem_dedup _ _).2 (findClass_name_mem cx.d c vcl hfind), decide_eq_true hin⟩, rfl⟩
  generalize hZ : Line.assign (cx.d.settings.style.classSize c) _ false false true = Z at hmem
  obtain ⟨S1, S2, hS⟩ := List.append_of_mem hmem
  have hS1 : ∀ l ∈ S1, OuterLine l := fun l hl => C18.sizeLines_outer cx emitted l (hS ▸ List.mem_append_left _ hl)
  obtain ⟨B1, B2, D, _, _, hshape⟩ := C18.endSections_shape cx emitted
  generalize B1 ++ (_ ++ (B2 ++ (_ ++ D))) = R at hshape
  generalize hB : S2 ++ (R ++ T) = B
  have hform : endSections cx emitted ++ T = S1 ++ Z :: B := by
    rw [hshape, hS, ← hB]; simp only [List.append_assoc, List.cons_append]
  rw [hform] at hscript
  obtain ⟨st1, f⟩ := link_frame objs defsyms cx vc ls (S1 ++ Z :: B)
  rw [← hscript] at f
  have hrd1 := frame_reads f hrd
  simp only [f.count, assignCount_append] at hcs hce hcz
  rw [f.image]
  obtain ⟨_, hSt, hSlow, _⟩ := class_start_kept_gen objs cx hsy c vcl v hfind reads hI hsegs hall st1 f.between
    (S1 ++ Z :: B) (fun hm => nomatch hm) (part_le hcs) (fun hm => nomatch hm) hrd1
  obtain ⟨vs, hvs, hbA, hEn, _⟩ := class_end_max objs cx hsy c hsegs hall st1 f.between (S1 ++ Z :: B) 0 (fun hm => nomatch hm)
    (fun _ => rfl) (part_le hce)
  have hSv := hSt hin
  have hE := hEn hin
  -- behind the segments nothing assigns the start or the end symbol, and nothing behind `c`'s size statement assigns the size
  obtain ⟨hs1, hs2⟩ := Nat.add_eq_zero_iff.1 (rest_zero hcs (hSlow hin fun hm => nomatch hm))
  obtain ⟨he1, he2⟩ := Nat.add_eq_zero_iff.1 (rest_zero hce (class_end_lower cx c segs [] ls emitted hsegs))
  have hz : assignCount (cx.d.settings.style.classSize c) B = 0 := by
    have := assignCount_cons (cx.d.settings.style.classSize c) Z B
    rw [← hZ, symOf_assign, if_pos rfl, hZ] at this
    omega
  generalize execK objs st1 ls _ = stA at hSv hE hbA ⊢
  refine ⟨vs, hvs, image_sym_kept objs stA _ _ v (by rw [assignCount_append, hs1, hs2]) hSv,
    image_sym_kept objs stA _ _ _ (by rw [assignCount_append, he1, he2]) hE, ?_⟩
  -- the size statements in front of `c`'s keep both; `c`'s own computes the difference
  rw [imageOf_sym, execK_append]
  obtain ⟨o2, _, _, _⟩ := run_outer objs S1 hS1 stA hbA.out (Z :: B ++ [])
  have k1 := (execK_keeps_count objs (cx.d.settings.style.classStart c) S1 stA (Z :: B ++ []) hs1).trans hSv
  have k2 := (execK_keeps_count objs (cx.d.settings.style.classEnd c) S1 stA (Z :: B ++ []) he1).trans hE
  generalize execK objs stA S1 _ = st2 at o2 k1 k2 ⊢
  subst hZ
  rw [lookup_assign_cons objs st2 _ _ _ _ _ B [] ne_dot o2.nd (not_mem_assigned_of_count hz)]
  simp [eval, operand_num st2 _ _ ne_dot k2, operand_num st2 _ v ne_dot k1, resolve]

/-- **the class size symbol in the image of the whole ordinary script.** For a class with `fixed_vram: v` and an emitted
member: when the script assigns the class start and size symbols once and the class end symbol as often as the writer
does, the image holds `v` in the start symbol, a number `E` in the end symbol, and `E - v` (32-bit) in the size symbol. -/
theorem final_class_size (objs : List InSec) (d : Document) (o : Opts) (vc : Bool) (script : List Line)
    (hmulti : d.settings.singleSegmentMode = false)
    (h : generateNormal d o vc = .ok script)
    (hall : ∀ s ∈ d.segments, shouldEmit o s.cond = true → s.allocSections ≠ [])
    (defsyms : List (Str × Nat)) (c : Str) (vcl : VramClass) (v : Nat)
    (hused : ∃ s ∈ d.segments, shouldEmit o s.cond = true ∧ s.vramClass = some c)
    (hfind : findClass d c = some vcl) (hcv : vcl.fixedVram = some v)
    (hcs : assignCount (d.settings.style.classStart c) script ≤ 1)
    (hce : assignCount (d.settings.style.classEnd c) script ≤ endAssigns o c false d.segments)
    (hcz : assignCount (d.settings.style.classSize c) script ≤ 1) :
    ∃ E : Nat,
      (link objs defsyms script).sym (d.settings.style.classStart c) = some v ∧
      (link objs defsyms script).sym (d.settings.style.classEnd c) = some E ∧
      (link objs defsyms script).sym (d.settings.style.classSize c) = some ((E + M32 - v % M32) % M32) := by
  obtain ⟨ls, em, hsegs, rfl⟩ := (generateNormal_ok hmulti).1 h
  obtain ⟨vs, _, h1, h2, h3⟩ := class_size_core objs { d := d, o := o } rfl vc d.segments ls em _ hsegs hall defsyms c vcl v hused hfind
    [] (introGives_fixedVram objs _ c vcl v hcv) rfl (fun _ h => nomatch h) hcs hce hcz
  exact ⟨_, h1, h2, h3⟩

/-- the hypotheses are met and the numbers are real: class `ovl` of `exDocC` starts at 0x80100000, ends at 0x8010000D, size 13. -/
example : (match generateNormal exDocC C04.exOpts false with
    | .ok script =>
      decide (assignCount c!"ovl_VRAM_CLASS_START" script = 1) && decide (assignCount c!"ovl_VRAM_CLASS_SIZE" script = 1)
      && decide (assignCount c!"ovl_VRAM_CLASS_END" script = 3)
      && decide ((link C04.exObjs [] script).sym c!"ovl_VRAM_CLASS_START" = some 0x80100000)
      && decide ((link C04.exObjs [] script).sym c!"ovl_VRAM_CLASS_END" = some 0x8010000D)
      && decide ((link C04.exObjs [] script).sym c!"ovl_VRAM_CLASS_SIZE" = some 13)
    | .error _ => false) = true := by decide_with exImageC_eq

end Slinky.C10
