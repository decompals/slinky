/-
  C03 in the image `Ld.link` returns: a segment with none of the four address fields is placed behind the segment
  emitted before it. What carries through the fold over the segments is `segments_last_end`: the location counter
  behind them *is* the value of the VRAM end symbol of the last emitted one (excluded segments write nothing), and 0
  when none is emitted.
-/
import Props.Example
import Props.MainScript
namespace Slinky.C03
open Slinky W Ld

/-- the last emitted segment of `segs`; `prev`, the one in front of `segs`, when `segs` has none (`segments_last_end` runs
from any state; for the whole script `prev = none`). -/
def lastEmitted (o : Opts) (prev : Option Segment) (segs : List Segment) : Option Segment :=
  match (segs.filter (fun s => shouldEmit o s.cond)).getLast? with
  | some f => some f
  | none => prev

theorem lastEmitted_snoc_excluded (o : Opts) (prev : Option Segment) (pre : List Segment) (s : Segment)
    (h : shouldEmit o s.cond = false) : lastEmitted o prev (pre ++ [s]) = lastEmitted o prev pre := by
  simp [lastEmitted, List.filter_append, h]

theorem lastEmitted_snoc_emitted (o : Opts) (prev : Option Segment) (pre : List Segment) (s : Segment)
    (h : shouldEmit o s.cond = true) : lastEmitted o prev (pre ++ [s]) = some s := by
  simp [lastEmitted, List.filter_append, h]

theorem lastEmitted_mem (o : Opts) (segs : List Segment) (f : Segment) (h : lastEmitted o none segs = some f) :
    f ∈ segs ∧ shouldEmit o f.cond = true := by
  unfold lastEmitted at h
  cases hg : (segs.filter (fun s => shouldEmit o s.cond)).getLast? with
  | none => rw [hg] at h; cases h
  | some g =>
    rw [hg] at h
    cases h
    simpa using List.mem_filter.1 (List.mem_of_getLast? hg)

/-- the location counter is where the last emitted segment ended; at `d0` (0 behind `begin_sections`) while there is none. -/
def EndInv (sty : Style) (st : St) (d0 : Nat) : Option Segment → Prop
  | none => st.dot = d0
  | some f => lookupLast (sty.segVramEnd f.name) st.syms = some (.num st.dot)

theorem addSegments_assign_vramEnd (cx : Ctx) {segs : List Segment} {em : List Str} {ls : List Line} {em' : List Str}
    (h : addSegments cx em segs = .ok (ls, em')) {f : Segment} (hf : f ∈ segs) (hfe : shouldEmit cx.o f.cond = true) :
    1 ≤ assignCount (cx.d.settings.style.segVramEnd f.name) ls := by
  obtain ⟨p1, p2, rfl⟩ := List.append_of_mem hf
  obtain ⟨a, em1, _, _, hrest, rfl⟩ := addSegments_append_ok.1 h
  obtain ⟨lf, em2, b, hfseg, _, rfl⟩ := addSegments_cons_ok.1 hrest
  have : 1 ≤ assignCount (cx.d.settings.style.segVramEnd f.name) lf := by
    apply addSegment_elim hfseg
    · intro hex; rw [hex] at hfe; cases hfe
    · exact fun _ cls alloc noload _ _ _ => vramEnd_assigned cx f cls alloc noload
  simp only [assignCount_append]; omega

/-- **behind any number of segments the location counter is the VRAM end of the last emitted one.** -/
theorem segments_last_end (objs : List InSec) (cx : Ctx) (hsy : cx.emitSecSyms = true) (d0 : Nat) :
    ∀ (segs : List Segment) (em : List Str) (ls : List Line) (em' : List Str)
      (_ : addSegments cx em segs = .ok (ls, em'))
      (_ : ∀ s ∈ segs, shouldEmit cx.o s.cond = true → s.allocSections ≠ [])
      (st : St) (_ : Outside st) (r : Nat) (_ : lookupLast Ld.romPos st.syms = some (.num r)) (k : List Line)
      (prev : Option Segment) (_ : EndInv cx.d.settings.style st d0 prev),
      ∃ (st' : St) (r' : Nat),
        st' = execK objs st ls k ∧ Outside st' ∧ lookupLast Ld.romPos st'.syms = some (.num r') ∧
        EndInv cx.d.settings.style st' d0 (lastEmitted cx.o prev segs) := by
  intro segs em ls em' h hall st ho r hr k prev hinv
  obtain ⟨r', o', hr', hi⟩ := segments_run objs cx hsy
    (I := fun pre _ st' _ => EndInv cx.d.settings.style st' d0 (lastEmitted cx.o prev pre))
    h hall ho hr k hinv
    (fun hi he => by rw [lastEmitted_snoc_excluded _ _ _ _ he]; exact hi)
    (fun _ he _ hS => by rw [lastEmitted_snoc_emitted _ _ _ _ he]; exact hS.vramEnd)
  exact ⟨_, r', rfl, o', hr', hi⟩

theorem segment_default_addr (objs : List InSec) (cx : Ctx) (hsy : cx.emitSecSyms = true) (em : List Str) (seg : Segment)
    (lsSeg : List Line) (em' : List Str) (hadd : addSegment cx em seg = .ok (lsSeg, em'))
    (hinc : shouldEmit cx.o seg.cond = true) (hne : seg.allocSections ≠ [])
    (st : St) (ho : Outside st) (r : Nat) (hr : lookupLast romPos st.syms = some (.num r)) (k : List Line)
    (ha : segAddr cx seg = none) :
    ∃ os ∈ (execK objs st lsSeg k).secs, os.name = c!"." ++ seg.name ∧ os.noload = false ∧ 1 ≤ os.align ∧
      os.addr = Ld.alignUp (alignO seg.segmentStartAlign st.dot) os.align := by
  obtain ⟨cls, r', aS, aE, al, dN, lmaV, hS, _⟩ := addSegment_run objs cx hsy hadd hinc hne st ⟨ho, r, hr⟩ k
  exact ⟨_, hS.sec, rfl, rfl, hS.al_pos, hS.noaddr ha⟩

theorem default_placement_main (objs : List InSec) {cx : Ctx} {segs : List Segment} {script : List Line}
    (hS : MainScript cx segs script) (defsyms : List (Str × Nat))
    (pre post : List Segment) (seg : Segment) (hsplit : segs = pre ++ seg :: post)
    (hinc : shouldEmit cx.o seg.cond = true)
    (hfv : seg.fixedVram = none) (hfs : seg.fixedSymbol = none) (hfol : seg.followsSegment = none) (hcl : seg.vramClass = none) :
    ∃ os ∈ (link objs defsyms script).secs, os.name = c!"." ++ seg.name ∧ os.noload = false ∧ 1 ≤ os.align ∧
      match lastEmitted cx.o none pre with
      | none => os.addr = Ld.alignUp (alignO seg.segmentStartAlign 0) os.align
      | some f => assignCount (cx.d.settings.style.segVramEnd f.name) script ≤ 1 →
          ∃ e, (link objs defsyms script).sym (cx.d.settings.style.segVramEnd f.name) = some e ∧
            os.addr = Ld.alignUp (alignO seg.segmentStartAlign e) os.align := by
  obtain ⟨c⟩ := hS.cut objs defsyms pre seg post hsplit
  obtain ⟨r1, hr1⟩ := c.start.rom
  -- the location counter the segment is reached with is the VRAM end of the last emitted segment in front
  obtain ⟨_, r2, rfl, o2, hr2, hinv⟩ := segments_last_end objs cx hS.syms 0 pre [] c.lsPre c.em1 c.hpre
    c.allocPre c.st1 c.start.out r1 hr1 (c.lsSeg ++ c.R) none c.dot
  obtain ⟨os, hos, g1, g2, g3, g4⟩ := segment_default_addr objs cx hS.syms c.em1 seg c.lsSeg c.em2 c.hseg hinc
    (c.allocSeg hinc) _ o2 r2 hr2 c.R
    (by unfold segAddr; simp [hfv, hfs, hfol, hcl])
  refine ⟨os, by rw [c.image]; exact image_sec_kept objs _ c.R os hos, g1, g2, g3, ?_⟩
  cases hl : lastEmitted cx.o none pre with
  | none =>
    rw [hl] at hinv
    exact g4.trans (by rw [show _ = 0 from hinv])
  | some f =>
    rw [hl] at hinv
    intro hcnt
    -- `f` assigns the name among the statements in front, hence nothing behind does
    obtain ⟨hfm, hfe⟩ := lastEmitted_mem cx.o pre f hl
    obtain ⟨_, h2, h3⟩ := cut_once_front c hcnt (addSegments_assign_vramEnd cx c.hpre hfm hfe)
    exact ⟨_, by rw [c.image]; exact image_sym_kept objs _ c.R _ _ h3 ((execK_keeps_count objs _ c.lsSeg _ _ h2).trans hinv), g4⟩

/-- **C03 in the linked image, for the whole ordinary script: the default placement.** An emitted segment with none
of `fixed_vram`, `fixed_symbol`, `follows_segment`, `vram_class` has `.<segment>` recorded at
`ALIGN(ALIGN(e, start alignment), alignment of the output section)`, where `e` is the value in that image of the VRAM
end symbol of the segment emitted last before it, and `e = 0` when no segment is emitted before it. -/
theorem final_default_placement (objs : List InSec) (d : Document) (o : Opts) (vc : Bool) (script : List Line)
    (hmulti : d.settings.singleSegmentMode = false)
    (h : generateNormal d o vc = .ok script)
    (hall : ∀ s ∈ d.segments, shouldEmit o s.cond = true → s.allocSections ≠ [])
    (defsyms : List (Str × Nat))
    (pre post : List Segment) (seg : Segment) (hsplit : d.segments = pre ++ seg :: post)
    (hinc : shouldEmit o seg.cond = true)
    (hfv : seg.fixedVram = none) (hfs : seg.fixedSymbol = none) (hfol : seg.followsSegment = none) (hcl : seg.vramClass = none) :
    ∃ os ∈ (link objs defsyms script).secs, os.name = c!"." ++ seg.name ∧ os.noload = false ∧ 1 ≤ os.align ∧
      match lastEmitted o none pre with
      | none => os.addr = Ld.alignUp (alignO seg.segmentStartAlign 0) os.align
      | some f => assignCount (d.settings.style.segVramEnd f.name) script ≤ 1 →
          ∃ e, (link objs defsyms script).sym (d.settings.style.segVramEnd f.name) = some e ∧
            os.addr = Ld.alignUp (alignO seg.segmentStartAlign e) os.align :=
  default_placement_main objs (MainScript.normal d o vc script hmulti h hall) defsyms pre post seg hsplit hinc hfv hfs hfol hcl

/-- the hypotheses are met and the numbers are real: in the example document of `Props/Example.lean` the segment `main`
has no address and a start alignment of 64; `boot` in front of it ends at 0x80000080 (124 bytes rounded up to
16), and `.main` is recorded there. -/
example : (match generateNormal C04.exDoc C04.exOpts false with
    | .ok script =>
      decide (assignCount c!"boot_VRAM_END" script = 1)
      && decide ((lastEmitted C04.exOpts none (C04.exDoc.segments.take 1)).map (·.name) = some c!"boot")
      && decide ((link C04.exObjs [] script).sym c!"boot_VRAM_END" = some 0x80000080)
      && (link C04.exObjs [] script).secs.any (fun os => os.name = c!".main" && os.addr = 0x80000080 && !os.noload)
    | .error _ => false) = true := by decide_with C04.exImage_eq

end Slinky.C03
