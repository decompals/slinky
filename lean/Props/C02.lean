/-
  C02 — layout order follows the document.
-/
import Props.C01Order
import Props.ImageSegment
namespace Slinky.C02
open Slinky W

/-- **segments in document order.** What `add_segment` writes for the list of segments is the
concatenation, in document order, of what it writes for each of them. -/
theorem segments_in_document_order (cx : Ctx) :
    ∀ (segs : List Segment) (em : List Str) (ls : List Line) (em' : List Str),
      addSegments cx em segs = .ok (ls, em') →
      ∃ parts : List (List Line), parts.length = segs.length ∧ ls = parts.flatten ∧
        ∀ i (hi : i < segs.length) (hp : i < parts.length), ∃ e1 e2, addSegment cx e1 segs[i] = .ok (parts[i], e2) := by
  intro segs em ls em' h
  refine addSegments_induction (P := fun _ segs ls _ => ∃ parts : List (List Line), parts.length = segs.length ∧ ls = parts.flatten ∧
      ∀ i (hi : i < segs.length) (hp : i < parts.length), ∃ e1 e2, addSegment cx e1 segs[i] = .ok (parts[i], e2))
    (fun _ => ⟨[], rfl, rfl, fun i hi => nomatch hi⟩) ?_ h
  rintro em seg rest a em1 b em' ha _ ⟨parts, hlen, rfl, hparts⟩
  refine ⟨a :: parts, by simp [hlen], by simp, ?_⟩
  intro i hi hp
  cases i with
  | zero => exact ⟨em, em1, by simpa using ha⟩
  | succ j =>
    obtain ⟨e1, e2, he⟩ := hparts j (by simpa using hi) (by simpa using hp)
    exact ⟨e1, e2, by simpa using he⟩

/-- **groups follow the configured list**: the sections of one output section are written in
list order, separated by one blank line (`f` is what is written for one section): the defining equations of
`sectionLoop`, read as that property. That the allocatable output section of a segment precedes the noload one is
`C03.segment_statements`. -/
theorem groups_follow_the_list (f : Str → R (List Line)) :
    sectionLoop f [] = .ok [] ∧
    (∀ s, sectionLoop f [s] = f s) ∧
    (∀ s t rest a b, f s = .ok a → sectionLoop f (t :: rest) = .ok b →
        sectionLoop f (s :: t :: rest) = .ok (a ++ [.blank] ++ b)) := by
  refine ⟨rfl, fun s => rfl, ?_⟩
  intro s t rest a b ha hb
  rw [sectionLoop_cons_cons, ha, hb]
  rfl

/-- **inside a section group entries follow the file list**: what stands between the start and
end symbols of a group (`C05.groupOf`) is what the files of the segment give, in list order
(`emit_section` walks `segment.files` front to back, and `C01.group_is_concatenation` does the
same one level down: depth-first order). -/
theorem entries_in_file_order (cx : Ctx) (seg : Segment) (sec : Str) (secs : List Str) (base0 d : Str)
    (hb : cx.esc cx.o cx.d.settings.basePath = .ok base0) (hd : cx.esc cx.o seg.dir = .ok d)
    (hr : cx.refPartial = false) :
    emitSection cx seg sec secs =
      concatMapE (fun file => emitEntry cx seg secs (fuelFor seg) file sec (pathPush base0 d) []) seg.files := by
  rw [emitSection_eq_bind, C01.segBase, hb, hd, hr]
  rfl

/-- **sub-group sections directly follow their lead section for the same file**: for an object
entry without `section_order`, the statements for a section `k` are the statement for `k`
itself immediately followed by everything its sub-group sections contribute, in the order of
the sub-group list. -/
theorem subgroups_follow_lead (cx : Ctx) (seg : Segment) (secs : List Str) (n : Nat)
    (p : Str) (c : Cond) (keep : Keep) (sec base : Str) (parents : List Str) (q : Str)
    (hinc : shouldEmit cx.o c = true) (hnp : sec ∉ parents) (hesc : cx.esc cx.o p = .ok q)
    (hr : cx.refPartial = false) :
    emitEntry cx seg secs (n + 1) (.mk p .object [] 0 [] [] [] [] [] c keep) sec base parents
      = (match concatMapE (fun other => emitEntry cx seg secs n (.mk p .object [] 0 [] [] [] [] [] c keep) other base (sec :: parents))
                (subgroupsOf seg sec) with
         | .ok b => .ok (.input (keepFor keep sec) (display (pathPush base q)) none sec seg.wildcardSections :: b)
         | .error e => .error e) := by
  rw [C01.emitEntry_no_order cx seg secs n (.mk p .object [] 0 [] [] [] [] [] c keep) sec base parents hinc hnp rfl]
  simp only [fileBody, FileInfo.kind, FileInfo.path, FileInfo.keep, hesc, liftPath, hr]
  cases concatMapE (fun other => emitEntry cx seg secs n (.mk p .object [] 0 [] [] [] [] [] c keep) other base (sec :: parents))
      (subgroupsOf seg sec) with
  | error e => rfl
  | ok b => rfl

/-- **`section_order`**: the sections an entry contributes to a group are the group's own
section (unless the entry moves it elsewhere) and every section the entry moves there, sorted
by position in the section list being written, ties by name: the defining equation of `sectionsToEmitHere` for a
non-empty map, read as that property (that the order in which the map is visited makes no difference is
`C15.sectionsToEmitHere_perm`). -/
theorem moved_sections_sorted (order : List (Str × Str)) (sec : Str) (secs : List Str) (h : order ≠ []) :
    sectionsToEmitHere order sec secs =
      sortBy (keyLe secs)
        ((if (lookup sec order).isSome then [] else [sec])
          ++ order.filterMap (fun kv => if kv.2 = sec then some kv.1 else none)) := by
  unfold sectionsToEmitHere
  rw [if_neg fun he => h (List.isEmpty_iff.1 he)]

open Ld in
/-- **C02, image clause**: along the statements of one output section of a segment the
addresses of the placed input sections never decrease: each one ends before the next one
starts. -/
theorem image_addresses_follow_statements (objs : List InSec) (cx : Ctx) (seg : Segment) (secs : List Str) (noload : Bool)
    (ls : List Line) (h : writeSegment cx seg secs noload = .ok ls) (st : St) (ho : Outside st) (k : List Line) :
    ∃ new, (execK objs st ls k).placed = st.placed ++ new ∧
      new.Pairwise (fun p q => p.addr + p.inp.size ≤ q.addr) := by
  obtain ⟨start, end_, al, new, hs⟩ := section_run objs cx seg secs noload ls h st ho k
  exact ⟨new, hs.placed, chainOk_sorted _ _ _ _ hs.chain⟩

end Slinky.C02
