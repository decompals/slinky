/-
  C12, the text of a dependency file — tied to the source text (lean/Src/Formats.lean, regenerated from
  linker_writer.rs `export_dependencies_file` and version.rs on every run).
-/
import Src.Formats
import Slinkyv.Exports
import Props.Render
namespace Slinky.C12

theorem version_src : (c!"# " ++ versionText ++ c!"\n\n" : Str)
    = fmt Src.lw__export_dependencies_file_0 [.n Src.version_major, .n Src.version_minor, .n Src.version_patch] :=
  rfl

/-- write by write; `writeln!` adds the line break of the rule lines. The literals `_1` ("Version comment") and `_5`
(empty) are the `contents` of `FailedWrite` errors, not text that is written. -/
theorem deps_text_src (vc : Bool) (target : Str) (paths : List Str) :
    depsText vc target paths
      = (if vc then fmt Src.lw__export_dependencies_file_0 [.n Src.version_major, .n Src.version_minor, .n Src.version_patch]
         else [])
        ++ fmt Src.lw__export_dependencies_file_2 [.s target]
        ++ (paths.map (fun p => fmt Src.lw__export_dependencies_file_3 [.s p])).flatten
        ++ fmt Src.lw__export_dependencies_file_4 []
        ++ (paths.map (fun p => fmt Src.lw__export_dependencies_file_6 [.s p] ++ c!"\n")).flatten := by
  rw [← version_src]
  have h3 : (fun p : Str => fmt Src.lw__export_dependencies_file_3 [.s p]) = (fun p => c!" \\\n    " ++ p) := by
    funext p; unfold Src.lw__export_dependencies_file_3; simp only [fmtNorm]
  have h6 : (fun p : Str => fmt Src.lw__export_dependencies_file_6 [.s p] ++ c!"\n") = (fun p => p ++ c!":\n") := by
    funext p; unfold Src.lw__export_dependencies_file_6; simp only [fmtNorm] <;> rfl
  rw [h3, h6]
  unfold depsText Src.lw__export_dependencies_file_2 Src.lw__export_dependencies_file_4
  simp only [fmtNorm]

theorem counts_src : Src.lw__export_dependencies_file_count = 7 := rfl

end Slinky.C12
