/-
  C05 — linker symbols are complete, named as documented, and mutually consistent.
-/
import Props.C03
namespace Slinky.C05
open Slinky W

/-- **every configured section gets its three symbols**, named by the style table, with
`SIZE = ABSOLUTE(END - START)`. -/
theorem section_symbols_defined (cx : Ctx) (seg : Segment) (secs : List Str) (noload : Bool) (ls : List Line)
    (hs : cx.emitSecSyms = true) (h : writeSegment cx seg secs noload = .ok ls) :
    ∀ sec ∈ secs,
      linkerSym (cx.d.settings.style.secStart seg.name sec) .dot ∈ ls ∧
      linkerSym (cx.d.settings.style.secEnd seg.name sec) .dot ∈ ls ∧
      linkerSym (cx.d.settings.style.secSize seg.name sec)
        (.absSub (cx.d.settings.style.secEnd seg.name sec) (cx.d.settings.style.secStart seg.name sec)) ∈ ls := by
  intro sec hsec
  obtain ⟨body, hbody, rfl⟩ := writeSegment_ok.1 h
  obtain ⟨s1, s2, rfl⟩ := List.append_of_mem hsec
  obtain ⟨P, g, Q, hg, rfl⟩ := W.sectionLoop_split _ s1 sec s2 body hbody
  obtain ⟨b, -, rfl⟩ := groupE_ok.1 hg
  simp only [groupOf, Ld.groupStart_eq _ _ _ hs, Ld.groupEnd_eq _ _ _ hs, List.mem_append, List.mem_cons, true_or, or_true,
    and_self]

/-- **the kind symbols** (`<seg>_alloc_*`, `<seg>_noload_*`) around each of the two parts. -/
theorem kind_symbols_defined (cx : Ctx) (seg : Segment) (secs : List Str) (noload : Bool) (ls : List Line)
    (hk : cx.emitKindSyms = true) (h : writeSegment cx seg secs noload = .ok ls) :
    let st := cx.d.settings.style
    let n := kindName seg noload
    linkerSym (st.segVramStart n) .dot ∈ ls ∧ linkerSym (st.segVramEnd n) .dot ∈ ls ∧
    linkerSym (st.segVramSize n) (.absSub (st.segVramEnd n) (st.segVramStart n)) ∈ ls := by
  obtain ⟨body, _, rfl⟩ := writeSegment_ok.1 h
  simp only [segmentStart, kindStart, kindEnd, if_pos hk, symEndSize, List.mem_append, List.mem_cons, true_or, or_true,
    and_self]

/-- **the segment symbols**: ROM start/end/size and VRAM start/end/size of every emitted
segment, each size being `ABSOLUTE(end - start)` of its own family. -/
theorem segment_symbols_defined (cx : Ctx) (seg : Segment) (cls alloc noload : List Line) :
    let st := cx.d.settings.style
    let ls := segmentLines cx seg cls alloc noload
    linkerSym (st.segRomStart seg.name) (.sym c!"__romPos") ∈ ls ∧
    linkerSym (st.segRomEnd seg.name) (.sym c!"__romPos") ∈ ls ∧
    linkerSym (st.segRomSize seg.name) (.absSub (st.segRomEnd seg.name) (st.segRomStart seg.name)) ∈ ls ∧
    linkerSym (st.segVramStart seg.name) (.addr (c!"." ++ seg.name)) ∈ ls ∧
    linkerSym (st.segVramEnd seg.name) .dot ∈ ls ∧
    linkerSym (st.segVramSize seg.name) (.absSub (st.segVramEnd seg.name) (st.segVramStart seg.name)) ∈ ls := by
  simp only [C03.segment_statements, List.mem_append, List.mem_cons, true_or, or_true, and_self]

/-- **known finding (KF-C05-kind-start-before-header).** The kind start symbol is written
*before* the output-section header: it is assigned the location counter left by whatever
precedes the segment part, not the start of the part. (Every golden file of the test suite
has this order; see known_findings.json.) -/
theorem kind_start_precedes_header (cx : Ctx) (seg : Segment) (noload : Bool) (hk : cx.emitKindSyms = true) :
    ∃ hdr, segmentStart cx seg noload =
      [linkerSym (cx.d.settings.style.segVramStart (kindName seg noload)) .dot, .blank, hdr, .blockOpen] := by
  rw [segmentStart, kindStart, if_pos hk]
  exact ⟨_, rfl⟩

/-! ### the naming table (docs/file_format/settings.md, `linker_symbols_style`) on concrete names -/

example : Style.splat.secStart c!"boot" c!".text" = c!"boot_TEXT_START" := by decide
example : Style.splat.secSize c!"boot" c!".rodata.cst8" = c!"boot_RODATA_CST8_SIZE" := by decide
example : Style.splat.secEnd c!"main" c!"COMMON" = c!"mainCOMMON_END" := by decide
example : Style.makerom.secStart c!"boot" c!".rodata" = c!"_bootSegmentRoDataStart" := by decide
example : Style.makerom.secEnd c!"boot" c!".text" = c!"_bootSegmentTextEnd" := by decide
example : Style.makerom.secSize c!"boot" c!"mysec" = c!"_bootSegmentMysecSize" := by decide
example : Style.splat.segVramStart c!"boot" = c!"boot_VRAM" := by decide
example : Style.makerom.segRomEnd c!"boot" = c!"_bootSegmentRomEnd" := by decide
example : Style.splat.linkerOffset c!"mark" = c!"mark_OFFSET" := by decide
example : Style.makerom.classSize c!"ovl" = c!"_ovlVramClassSize" := by decide
example : Style.splat.segVramStart (kindName { name := c!"boot", files := [], allocSections := [], noloadSections := [] } true)
    = c!"boot_noload_VRAM" := by decide

open Ld in
/-- **C05, image clause for one section group**: after the group's statements its start symbol `s`
and end symbol `e` satisfy `s ≤ e`, its size symbol is `e - s` (32-bit), and every input section
the statements placed lies in `[s, e]`, in the open output section. -/
theorem image_group_symbols (objs : List InSec) (cx : Ctx) (seg : Segment) (sec : Str) (hsy : cx.emitSecSyms = true)
    (body : List Line) (hb : ∀ l ∈ body, BodyLine cx.d.settings.style seg.wildcardSections l)
    (c : Cur) (st : St) (hin : Inside c st) (k : List Line) :
    ∃ (s e : Nat) (new : List Placed) (st' : St),
      st' = execK objs st (sectionSymStart cx seg sec ++ body ++ sectionSymEnd cx seg sec) k ∧
      lookupLast (cx.d.settings.style.secStart seg.name sec) st'.syms = some (.num s) ∧
      lookupLast (cx.d.settings.style.secEnd seg.name sec) st'.syms = some (.num e) ∧
      lookupLast (cx.d.settings.style.secSize seg.name sec) st'.syms = some (.num ((e + M32 - s % M32) % M32)) ∧
      s ≤ e ∧ st'.placed = st.placed ++ new ∧
      ∀ p ∈ new, s ≤ p.addr ∧ p.addr + p.inp.size ≤ e ∧ p.out = c.name := by
  obtain ⟨s, e, new, h⟩ := group_run objs cx seg sec hsy body hb c st hin k
  exact ⟨s, e, new, _, rfl, h.startSym, h.endSym, h.sizeSym, h.le, h.placed, chainOk_mem _ _ _ _ h.chain⟩

/-- the size symbol is the plain difference whenever the end lies below 4 GiB. -/
theorem size_is_difference (s e : Nat) (h : s ≤ e) (he : e < Ld.M32) : (e + Ld.M32 - s % Ld.M32) % Ld.M32 = e - s := by
  rw [Nat.mod_eq_of_lt (Nat.lt_of_le_of_lt h he), Nat.add_comm, Nat.add_sub_assoc h, Nat.add_mod_left,
    Nat.mod_eq_of_lt (Nat.lt_of_le_of_lt (Nat.sub_le e s) he)]

end Slinky.C05
