/-
  C05, "spelled as documented for the selected `linker_symbols_style`" — tied to the source text.
  `Src.segment_rom_start` … `Src.vram_class_size` (lean/Src/Tables.lean) are written by tools/extract_tables.py from
  the `format!` strings of /repo/slinky/src/linker_symbols_style.rs on every check run. The one function modelled by
  hand, `convert_section_name_to_linker_format` (with `utils::capitalize`), is fingerprinted: its token text must be
  the one `Style.sectionName` was written from.
-/
import Src.Tables
namespace Slinky.C05

theorem segRomStart_src (st : Style) (n : Str) : st.segRomStart n = Src.segment_rom_start st n := by cases st <;> rfl
theorem segRomEnd_src (st : Style) (n : Str) : st.segRomEnd n = Src.segment_rom_end st n := by cases st <;> rfl
theorem segRomSize_src (st : Style) (n : Str) : st.segRomSize n = Src.segment_rom_size st n := by cases st <;> rfl
theorem segVramStart_src (st : Style) (n : Str) : st.segVramStart n = Src.segment_vram_start st n := by cases st <;> rfl
theorem segVramEnd_src (st : Style) (n : Str) : st.segVramEnd n = Src.segment_vram_end st n := by cases st <;> rfl
theorem segVramSize_src (st : Style) (n : Str) : st.segVramSize n = Src.segment_vram_size st n := by cases st <;> rfl
theorem secStart_src (st : Style) (n sec : Str) : st.secStart n sec = Src.segment_section_start st n sec := by cases st <;> rfl
theorem secEnd_src (st : Style) (n sec : Str) : st.secEnd n sec = Src.segment_section_end st n sec := by cases st <;> rfl
theorem secSize_src (st : Style) (n sec : Str) : st.secSize n sec = Src.segment_section_size st n sec := by cases st <;> rfl
theorem linkerOffset_src (st : Style) (n : Str) : st.linkerOffset n = Src.linker_offset st n := by cases st <;> rfl
theorem classStart_src (st : Style) (n : Str) : st.classStart n = Src.vram_class_start st n := by cases st <;> rfl
theorem classEnd_src (st : Style) (n : Str) : st.classEnd n = Src.vram_class_end st n := by cases st <;> rfl
theorem classSize_src (st : Style) (n : Str) : st.classSize n = Src.vram_class_size st n := by cases st <;> rfl

/-- the source has these naming functions and no other (a new one would need a model). -/
theorem style_functions_src : Src.styleFunctions =
    ["segment_rom_start", "segment_rom_end", "segment_rom_size", "segment_vram_start", "segment_vram_end",
     "segment_vram_size", "segment_section_start", "segment_section_end", "segment_section_size", "linker_offset",
     "vram_class_start", "vram_class_end", "vram_class_size"] := rfl

/-- `Src.sectionNameSource` is computed by tools/extract_tables.py: the body of `convert_section_name_to_linker_format`,
white space removed, equals the text recorded in that script. -/
theorem sectionName_source_unchanged : Src.sectionNameSource = true ∧
    Src.capitalizeSource = "letmutchars=s.chars();matchchars.next(){None=>\"\".to_string(),Some(first)=>first.to_uppercase().to_string()+chars.as_str(),}" :=
  ⟨rfl, rfl⟩

end Slinky.C05
