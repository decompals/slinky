/-
  Vram classes in the linker semantics: what the class prologue leaves in the start and end symbols, that a member
  segment opens at the value of the class start symbol, and that the class end symbol accumulates the maximum of the
  members' VRAM ends.
-/
import Props.ImageDoc
namespace Slinky
namespace Ld
open W

theorem eval_maxE {st : St} {a b : Str} {x y : Nat} (ha : a ≠ c!".") (hb : b ≠ c!".")
    (hx : lookupLast a st.syms = some (.num x)) (hy : lookupLast b st.syms = some (.num y)) :
    eval st (.maxE a b) = .num (max x y) := by
  simp [eval, operand_num st a x ha hx, operand_num st b y hb hy]

/-- a member of a vram class opens at the value of the class start symbol: when the address of the segment is its
class (`segAddr = classStart c`) and the class start symbol holds `v` where the segment's own statements begin, the
allocatable output section is recorded at `v`. -/
theorem member_starts_at_class (objs : List InSec) (cx : Ctx) (seg : Segment) (alloc noload : List Line) (c : Str)
    (hc : segAddr cx seg = some (cx.d.settings.style.classStart c))
    (ha : writeSegment cx seg seg.allocSections false = .ok alloc)
    (hn : writeSegment cx seg seg.noloadSections true = .ok noload)
    (hne : seg.allocSections ≠ []) (hsy : cx.emitSecSyms = true)
    (st : St) (ho : Outside st) (r : Nat) (hr : lookupLast romPos st.syms = some (.num r))
    (v : Nat) (hv : lookupLast (cx.d.settings.style.classStart c) st.syms = some (.num v)) (k : List Line) :
    ∃ (aE al : Nat) (lmaV : Option Nat),
      (⟨c!"." ++ seg.name, v, aE - v, lmaV, false, al⟩ : OutSec) ∈ (execK objs st (segmentLines cx seg [] alloc noload) k).secs := by
  obtain ⟨aS, aE, al, dN, lmaV, h⟩ :=
    segment_run objs cx seg [] alloc noload (fun _ h => nomatch h) ha hn hne hsy st ho r hr k
  have : aS = v := h.addr_of_sym hc ne_dot hv (not_mem_assigned_head cx seg)
  subst this
  exact ⟨aE, al, lmaV, h.sec⟩

/-- a run of `s = MAX(s, e_i);` statements leaves in `s` the maximum of its old value and the values of the `e_i`;
`ev` names the value each symbol read here holds in `st`. -/
theorem max_run (objs : List InSec) (s : Str) (hs : s ≠ c!".") (ev : Str → Nat) :
    ∀ (others : List Str) (st : St) (_ : Outside st) (m : Nat) (_ : lookupLast s st.syms = some (.num m))
      (_ : ∀ o ∈ others, o ≠ c!"." ∧ o ≠ s ∧ lookupLast o st.syms = some (.num (ev o))) (k : List Line),
      Outside (execK objs st (others.map fun o => maxSelf s o) k) ∧
      lookupLast s (execK objs st (others.map fun o => maxSelf s o) k).syms
        = some (.num (others.foldl (fun m o => max m (ev o)) m)) ∧
      (execK objs st (others.map fun o => maxSelf s o) k).dot = st.dot ∧
      (execK objs st (others.map fun o => maxSelf s o) k).secs = st.secs ∧
      (∀ n, n ≠ s → lookupLast n (execK objs st (others.map fun o => maxSelf s o) k).syms = lookupLast n st.syms) := by
  intro others st ho m hm hall k
  have hmem : ∀ l ∈ others.map (fun o => maxSelf s o), OuterLine l ∧ symOf l = some s := by
    intro l hl
    obtain ⟨o, _, rfl⟩ := List.mem_map.1 hl
    exact ⟨.sym _ _ _ _ _ hs, if_neg hs⟩
  obtain ⟨o1, d1, s1, p1⟩ := run_outer objs _ (fun l hl => (hmem l hl).1) st ho k
  refine ⟨o1, ?_, d1, s1, fun n hn => execK_keeps objs n _ st k fun l hl e => hn ?_⟩
  · clear hmem o1 d1 s1 p1
    induction others generalizing st m with
    | nil => exact hm
    | cons o rest ih =>
      obtain ⟨ho1, _, ho3⟩ := hall o List.mem_cons_self
      rw [List.map_cons, maxSelf, execK_sym objs ho.nd hs, eval_maxE hs ho1 hm ho3]
      refine ih _ (ho.setSym _ _) _ (by rw [lookupLast_setSym, if_pos rfl]) (fun o' ho' => ?_)
      obtain ⟨h1, h2, h3⟩ := hall o' (List.mem_cons_of_mem _ ho')
      exact ⟨h1, h2, by rw [lookupLast_setSym, if_neg (Ne.symm h2)]; exact h3⟩
  · rw [(hmem l hl).2] at e; exact (Option.some.inj e).symm

theorem class_intro_frame (objs : List InSec) (cx : Ctx) (cname : Str) (vc : VramClass) (st : St) (ho : Outside st)
    (k : List Line) :
    Outside (execK objs st (classIntro cx cname vc) k) ∧ (execK objs st (classIntro cx cname vc) k).dot = st.dot ∧
    (execK objs st (classIntro cx cname vc) k).secs = st.secs ∧
    lookupLast (cx.d.settings.style.classEnd cname) (execK objs st (classIntro cx cname vc) k).syms = some (.num 0) := by
  have hall := classIntro_outer cx cname vc
  obtain ⟨o1, d1, s1, _⟩ := run_outer objs _ (fun l hl => (hall l hl).1) st ho k
  refine ⟨o1, d1, s1, ?_⟩
  unfold classIntro at hall ⊢
  rw [execK_append]
  generalize (_ ++ k) = K
  obtain ⟨o2, _⟩ := run_outer objs _ (fun l hl => (hall l (List.mem_append_left _ hl)).1) st ho K
  exact lookup_assign_cons objs _ _ (.hex8 0) _ _ _ [.blank] k ne_dot o2.nd (fun h => nomatch h)

/-- the class prologue in the linked image: the class start symbol holds `fixed_vram`, the value of `fixed_symbol`, or
the largest value among the end symbols of the followed classes some emitted segment uses (`followedUsed`; 0 when
there is none); the class end symbol starts at 0. -/
theorem class_intro_image (objs : List InSec) (cx : Ctx) (cname : Str) (vc : VramClass)
    (st : St) (ho : Outside st) (ev : Str → Nat) (k : List Line)
    (hfs : ∀ fs, vc.fixedVram = none → vc.fixedSymbol = some fs → lookupLast fs st.syms = some (.num (ev fs)))
    (hfo : vc.fixedVram = none → vc.fixedSymbol = none → ∀ o ∈ followedUsed cx vc,
      lookupLast (cx.d.settings.style.classEnd o) st.syms = some (.num (ev (cx.d.settings.style.classEnd o)))) :
    let st' := execK objs st (classIntro cx cname vc) k
    Outside st' ∧ st'.dot = st.dot ∧ st'.secs = st.secs ∧
    lookupLast (cx.d.settings.style.classEnd cname) st'.syms = some (.num 0) ∧
    lookupLast (cx.d.settings.style.classStart cname) st'.syms = some (.num
      (match vc.fixedVram with
       | some v => v
       | none => match vc.fixedSymbol with
         | some fs => ev fs
         | none => ((followedUsed cx vc).map cx.d.settings.style.classEnd).foldl (fun m o => max m (ev o)) 0)) := by
  intro st'
  obtain ⟨f1, f2, f3, f4⟩ := class_intro_frame objs cx cname vc st ho k
  refine ⟨f1, f2, f3, f4, ?_⟩
  generalize hsty : cx.d.settings.style = sty at *
  -- `END = 0;` and the empty line do not assign the start symbol
  show lookupLast (sty.classStart cname) (execK objs st (classIntro cx cname vc) k).syms = _
  unfold classIntro
  rw [hsty, execK_append, execK_keeps_assigned objs (by
    rw [assigned_cons, symOf_linkerSym, assigned_cons, symOf_blank]
    exact fun h => absurd (List.mem_singleton.1 h) name_ne)]
  generalize ([linkerSym (sty.classEnd cname) (.hex8 0), Line.blank] ++ k) = K
  cases hv : vc.fixedVram with
  | some v => exact lookup_assign_cons objs st _ (.hex8 v) _ _ _ [] K ne_dot ho.nd (fun h => nomatch h)
  | none =>
    cases hf : vc.fixedSymbol with
    | some fs =>
      exact (lookup_assign_cons objs st _ (.sym fs) _ _ _ [] K ne_dot ho.nd (fun h => nomatch h)).trans
        (congrArg some (eval_sym_num (hfs fs hv hf)))
    | none =>
      show lookupLast _ (execK objs st (linkerSym (sty.classStart cname) (.hex8 0) :: _) K).syms = _
      rw [linkerSym, execK_sym objs ho.nd ne_dot, show List.map (fun other => maxSelf (sty.classStart cname) (sty.classEnd other)) (followedUsed cx vc)
        = List.map (fun o => maxSelf (sty.classStart cname) o) (List.map sty.classEnd (followedUsed cx vc)) by rw [List.map_map]; rfl]
      refine (max_run objs (sty.classStart cname) ne_dot ev ((followedUsed cx vc).map sty.classEnd) _ (ho.setSym _ _) 0
        (by rw [lookupLast_setSym, if_pos rfl]; rfl) (fun o ho' => ?_) K).2.1
      obtain ⟨x, hx, rfl⟩ := List.mem_map.1 ho'
      exact ⟨ne_dot, name_ne, by rw [lookupLast_setSym, if_neg name_ne]; exact hfo hv hf x hx⟩

/-- the class end symbol accumulates the members' VRAM ends: behind the statements that follow the output sections of
a member segment of class `c`, the class end symbol holds the maximum of its previous value and the segment's VRAM
end (the location counter there, after the segment's end alignment). -/
theorem tail_class_end (objs : List InSec) (cx : Ctx) (seg : Segment) (c : Str) (hc : seg.vramClass = some c)
    (st : St) (ho : Outside st) (r0 : Nat) (hr : lookupLast romPos st.syms = some (.num r0))
    (e0 : Nat) (he : lookupLast (cx.d.settings.style.classEnd c) st.syms = some (.num e0)) (k : List Line) :
    lookupLast (cx.d.settings.style.classEnd c) (execK objs st (segTail cx seg) k).syms
      = some (.num (max e0 (alignO seg.segmentEndAlign st.dot))) := by
  obtain ⟨st3, e, o3, d3, _, _, _, v3, _, hk⟩ := tail_split objs cx seg st ho r0 hr k
  rw [e]
  generalize cx.d.settings.style = sty at *
  have hT : tailClass sty seg = [.blank,
      .assign (sty.classEnd c) (.maxE (sty.classEnd c) (sty.segVramEnd seg.name)) false false false, .blank] := by
    simp only [tailClass, hc, maxSelf, List.cons_append, List.nil_append]
  -- behind the four end and size symbols, `END = MAX(END, seg_VRAM_END);` is the last assignment of `END`
  rw [hT, execK_blank, lookup_assign_cons objs _ _ _ _ _ _ _ k ne_dot o3.nd (by rw [assigned_cons, symOf_blank]; exact fun h => nomatch h),
    eval_maxE ne_dot ne_dot ((hk c).trans he) v3, d3]

end Ld
end Slinky
