/-
  C13 — the symbols header declares exactly the generated linker symbols.
-/
import Props.Image
import Props.WriterInv
namespace Slinky.C13
open Slinky

/-- the header text is `headerText` of the two header settings and the writer's recorded
linker symbols, in ordinary and in partial mode (main writer). -/
theorem header_of_symbols (d : Document) (o : Opts) (m : Mode) (vc : Bool) (out : Outputs)
    (h : generate d o m vc = .ok out) :
    out.header = headerText vc d.settings.symbolsHeaderType d.settings.symbolsHeaderAsArray out.symbols
    ∧ out.symbols = linkerSymbols out.lines := by
  obtain ⟨-, h2, h3, -⟩ := W.generate_main h
  exact ⟨h3, h2⟩

/-- each recorded symbol is declared once, and a name is recorded iff the script contains a plain
assignment (no `PROVIDE`, no `HIDDEN`) written through `write_linker_symbol` — hence every
declared name is defined by the script. -/
theorem declared_once_and_defined (ls : List Line) :
    (linkerSymbols ls).Nodup ∧
    ∀ s, s ∈ linkerSymbols ls ↔ ∃ e, Line.assign s e false false true ∈ ls := by
  refine ⟨nodup_dedup _, ?_⟩
  intro s
  unfold linkerSymbols
  rw [mem_dedup]
  simp only [List.mem_filterMap]
  constructor
  · rintro ⟨l, hl, hs⟩
    unfold Line.linkerSym? at hs
    split at hs
    · cases hs; exact ⟨_, hl⟩
    · cases hs
  · rintro ⟨e, hl⟩
    exact ⟨_, hl, rfl⟩

theorem not_linker (s : Str) (e : Expr) (p h : Bool) : (Line.assign s e p h false).linkerSym? = none := by
  cases p <;> cases h <;> rfl

/-- user symbol assignments, `ENTRY`, `EXTERN` and `ASSERT` lines never enter the header. -/
theorem toplevel_not_declared (d : Document) (o : Opts) :
    ∀ l ∈ topLevel d o, l.linkerSym? = none := by
  intro l hl
  cases W.topLevel_lines d o l hl with
  | assign n v p h => exact not_linker _ _ _ _
  | _ => rfl

/-- neither `_gp` (hardcoded or from `gp_info`) nor the helper `__romPos` is declared. -/
theorem gp_and_rompos_not_declared (cx : Ctx) (seg : Segment) (sec : Str) :
    (∀ l ∈ gpLine cx seg sec, l.linkerSym? = none) ∧ (∀ l ∈ beginSections cx, l.linkerSym? = none) := by
  constructor
  · intro l hl
    unfold gpLine at hl
    split at hl
    · simp at hl
    · split at hl
      · simp at hl; subst hl; exact not_linker _ _ _ _
      · simp at hl
  · intro l hl
    unfold beginSections at hl
    simp only [List.mem_append, List.mem_cons, List.mem_nil_iff, or_false] at hl
    rcases hl with ((rfl | rfl | rfl) | hl) | rfl
    · rfl
    · rfl
    · rfl
    · split at hl <;> simp at hl
      subst hl; rfl
    · rfl

open Ld in
/-- **C13, image clause**: every name the header declares (a symbol recorded through
`write_linker_symbol` in the part `A` of the script in front of the `/DISCARD/` block — which
`C18.tail` shows to be the last block) is in the symbol table of the image, whatever follows `A`:
an assignment outside `/DISCARD/` always defines its symbol and nothing removes one. -/
theorem image_declared_are_defined (objs : List InSec) (A B : List Line) (st : St) (hd : st.inDiscard = false)
    (hA : ∀ l ∈ A, l ≠ .discardHdr) :
    ∀ s ∈ linkerSymbols A, s ≠ c!"." → s ∈ names (exec objs st (A ++ B)) := by
  intro s hs hne
  obtain ⟨e, he⟩ := (declared_once_and_defined A).2 s |>.1 hs
  exact assigned_is_defined objs A B st hd hA s e false false true hne he

end Slinky.C13
