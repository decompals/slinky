/-
  C16, "rejected when it has an unknown key at any level" — tied to the source text.
  `Src.keys_<Struct>` / `Src.deny_<Struct>` (lean/Src/Tables.lean) are written by tools/extract_tables.py from the
  field lists and the `#[serde(deny_unknown_fields)]` attributes of the `*Serial` structs of /repo/slinky/src on
  every check run; the nine theorems below compare them with the key tables `checkKeys` is called with in
  `Slinkyv/Serial.lean` (`fileKeys` … `documentKeys`; `unknown_key_rejected` in `Props/C16.lean` writes six of these out
  as literals, the same lists by `rfl`).
-/
import Src.Tables
import Slinkyv.Serial
namespace Slinky.C16

def sameKeys (a b : List Str) : Bool := a.all (· ∈ b) && b.all (· ∈ a)

theorem file_keys_src : sameKeys fileKeys Src.keys_FileInfoSerial = true ∧ Src.deny_FileInfoSerial = true := by decide +kernel
theorem segment_keys_src : sameKeys segmentKeys Src.keys_SegmentSerial = true ∧ Src.deny_SegmentSerial = true := by decide +kernel
theorem settings_keys_src : sameKeys settingsKeys Src.keys_SettingsSerial = true ∧ Src.deny_SettingsSerial = true := by decide +kernel
theorem gp_keys_src : sameKeys gpKeys Src.keys_GpInfoSerial = true ∧ Src.deny_GpInfoSerial = true := by decide +kernel
theorem class_keys_src : sameKeys classKeys Src.keys_VramClassSerial = true ∧ Src.deny_VramClassSerial = true := by decide +kernel
theorem assign_keys_src : sameKeys assignKeys Src.keys_SymbolAssignmentSerial = true ∧ Src.deny_SymbolAssignmentSerial = true := by decide +kernel
theorem required_keys_src : sameKeys requiredKeys Src.keys_RequiredSymbolSerial = true ∧ Src.deny_RequiredSymbolSerial = true := by decide +kernel
theorem assert_keys_src : sameKeys assertKeys Src.keys_AssertEntrySerial = true ∧ Src.deny_AssertEntrySerial = true := by decide +kernel
theorem document_keys_src : sameKeys documentKeys Src.keys_DocumentSerial = true ∧ Src.deny_DocumentSerial = true := by decide +kernel

/-- the source has these serial records and no other (a new one would need a decoder in the model). -/
theorem serial_structs_src : Src.serialStructs =
    ["AssertEntrySerial", "DocumentSerial", "FileInfoSerial", "GpInfoSerial", "RequiredSymbolSerial", "SegmentSerial",
     "SettingsSerial", "SymbolAssignmentSerial", "VramClassSerial"] := rfl

end Slinky.C16
