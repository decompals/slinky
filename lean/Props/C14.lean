/-
  C14 — KEEP wrapping follows nearest-ancestor `keep_sections` inheritance.
-/
import Props.Lemmas
namespace Slinky.C14
open Slinky

def mapD {α β} (f : α → β) : D α → D β
  | .ok a => .ok (f a)
  | .error e => .error e

theorem eff_absent (keep : Keep) : (if keep = .absent then .absent else keep) = keep :=
  ite_eq_right_iff.2 Eq.symm

mutual
  theorem passDown_resolve (k : Keep) (t : FileInfo) :
      passDownFile k (resolveFile .absent t) = resolveFile k t := by
    cases t with
    | mk p kind sf pa se lo so fs dir c keep =>
      by_cases hk : k = .absent
      · subst hk
        simp [passDownFile, resolveFile]
      · by_cases hkeep : keep = .absent
        · subst hkeep
          by_cases hg : kind = .group
          · subst hg
            simp [passDownFile, resolveFile, hk, passDown_resolve_list k fs]
          · simp [passDownFile, resolveFile, hk, hg]
        · simp [passDownFile, resolveFile, hk, hkeep]
  theorem passDown_resolve_list (k : Keep) (ts : List FileInfo) :
      passDownFiles k (resolveFiles .absent ts) = resolveFiles k ts := by
    cases ts with
    | nil => rfl
    | cons t ts => rw [resolveFiles, passDownFiles, passDown_resolve k t, passDown_resolve_list k ts, resolveFiles]
end

theorem resolveFiles_nil_iff (k : Keep) : resolveFiles k [] = [] := rfl

/-- the push-down, which the code runs only for a written value (`p`), on files resolved among themselves. -/
theorem guard_resolve {p : Prop} [Decidable p] {k : Keep} (hp : p ↔ k ≠ .absent) (ts : List FileInfo) :
    (if p then passDownFiles k (resolveFiles .absent ts) else resolveFiles .absent ts) = resolveFiles k ts := by
  split
  · exact passDown_resolve_list k ts
  · rw [show k = .absent from Decidable.of_not_not (mt hp.2 ‹_›)]

theorem fileFields_pass {path : AN Str} {kindA : AN FileKind} {subfile : AN Str} {padAmount : AN Nat}
    {sect lo : AN Str} {so : AN (List (Str × Str))} (has pres : Bool) (children : D (List FileInfo))
    {dir : AN Str} {c : CondS} {keep : Keep} :
    fileFields true path kindA subfile padAmount sect lo so has pres (mapD (resolveFiles .absent) children) dir c keep
      = mapD (resolveFile .absent) (fileFields false path kindA subfile padAmount sect lo so has pres children dir c keep) := by
  unfold fileFields filesR
  cases filePre path kindA subfile padAmount sect lo so with
  | error e => rfl
  | ok r =>
    obtain ⟨p, kind, sf, pa, se, lon, sord⟩ := r
    dsimp only
    by_cases hg : kind = .group
    · subst hg
      cases has; · rfl
      cases children; · rfl
      cases filePost .group dir c; · rfl
      refine congrArg Except.ok ?_
      rw [guard_resolve ⟨fun h => h.2.2, fun h => ⟨rfl, rfl, h⟩⟩, resolveFile, eff_absent, if_pos rfl]
      rfl
    · rw [if_neg hg, if_neg hg]
      cases pres; rotate_left; · rfl
      cases filePost kind dir c; · rfl
      refine congrArg Except.ok ?_
      rw [resolveFile, eff_absent, if_neg hg, if_neg (fun h => hg h.2.1), if_neg (fun h => hg h.2.1)]

mutual
  /-- `FileInfoSerial::unserialize` with its push-down pass = the pass-free parse, then top-down
  nearest-ancestor resolution (same accept/reject, same error). -/
  theorem unserialize_pass (f : FileS) :
      FileS.unserialize true f = mapD (resolveFile .absent) (FileS.unserialize false f) := by
    cases f with
    | mk path kindA subfile padAmount sect lo so files dir c keep =>
      -- once `files` is a constructor both sides compute (the unfolding lemma of the nested recursion is dear)
      cases files with
      | value l =>
        refine Eq.trans ?_ (fileFields_pass true true (FileS.unserializeList false l))
        rw [← unserializeList_pass l]; rfl
      | absent => exact fileFields_pass false false (.ok [])
      | null => exact fileFields_pass false true (.ok [])
  theorem unserializeList_pass (l : List FileS) :
      FileS.unserializeList true l = mapD (resolveFiles .absent) (FileS.unserializeList false l) := by
    cases l with
    | nil => rfl
    | cons f fs =>
      rw [FileS.unserializeList, FileS.unserializeList, unserialize_pass f, unserializeList_pass fs]
      cases FileS.unserialize false f; · rfl
      cases FileS.unserializeList false fs <;> rfl
end

theorem mapE_mapD {α β} {f g : α → D β} {h : β → β} (hfg : ∀ a, f a = mapD h (g a)) (l : List α) :
    mapE f l = mapD (List.map h) (mapE g l) := by
  induction l with
  | nil => rfl
  | cons a as ih =>
    rw [mapE_cons, mapE_cons, hfg a, ih]
    cases g a <;> cases mapE g as <;> rfl

theorem resolveFiles_eq_map (k : Keep) (l : List FileInfo) : resolveFiles k l = l.map (resolveFile k) := by
  induction l with
  | nil => rfl
  | cons a as ih => rw [resolveFiles, ih, List.map_cons]

theorem segment_pass (st : Settings) (s : SegmentS) :
    SegmentS.unserialize true st s
      = mapD (fun seg => { seg with files := resolveFiles seg.keep seg.files }) (SegmentS.unserialize false st s) := by
  unfold SegmentS.unserialize
  by_cases hn : s.name = []
  · rw [if_pos hn, if_pos hn]; rfl
  rw [if_neg hn, if_neg hn, unserializeList_pass]
  cases s.files.isEmpty; rotate_left; · rfl
  cases FileS.unserializeList false s.files; · rfl
  cases segmentRest st s with
  | error e => rfl
  | ok seg =>
    exact congrArg (fun fs => Except.ok { seg with keep := s.keep, files := fs })
      (guard_resolve (p := true = true ∧ s.keep ≠ .absent) ⟨And.right, And.intro rfl⟩ _)

theorem applyClassKeep_eq (classes : List VramClass) (seg : Segment) :
    applyClassKeep classes seg = seg.passDownKeep (classKeep classes seg) := by
  unfold applyClassKeep classKeep
  cases seg.vramClass with
  | none => rfl
  | some cn =>
    dsimp only
    cases classes.find? (fun c => c.name = cn) <;> rfl

theorem applyClassKeep_resolve (classes : List VramClass) (seg : Segment) :
    applyClassKeep classes { seg with files := resolveFiles seg.keep seg.files }
      = resolveSegment classes seg := by
  rw [applyClassKeep_eq]
  show Segment.passDownKeep _ (classKeep classes seg) = _
  unfold resolveSegment Segment.passDownKeep
  generalize classKeep classes seg = k
  by_cases hk : k = .absent
  · rw [if_pos hk, hk, eff_absent]
  · rw [if_neg hk]
    by_cases hs : seg.keep = .absent
    · rw [if_pos hs, if_pos hs, hs, passDown_resolve_list]
    · rw [if_neg hs, if_neg hs]

/-- **C14 (parse level).** Parsing a document with the three push-down passes of the code
yields exactly the document obtained by parsing the explicitly written values only and then
giving every entry the nearest explicit `keep_sections` among itself, its enclosing groups
from the innermost outwards, its segment and the segment's vram class. -/
theorem passes_refine (ds : DocumentS) :
    ds.unserialize true = mapD resolveDoc (ds.unserialize false) := by
  unfold DocumentS.unserialize
  cases documentPre ds; · rfl
  dsimp only
  rw [mapE_mapD (segment_pass _)]
  cases mapE (SegmentS.unserialize false _) ds.segments; · rfl
  cases documentPost ds; · rfl
  refine congrArg Except.ok ?_
  simp only [resolveDoc, if_true, Bool.false_eq_true, if_false, List.map_map]
  congr 1
  exact List.map_congr_left fun seg _ => applyClassKeep_resolve _ seg

/-- the same for a whole value tree. -/
theorem parse_eq_specParse (y : Y) : parseDocument y = specParse y := by
  unfold parseDocument specParse
  cases dDocumentS y with
  | error e => rfl
  | ok ds =>
    dsimp only
    rw [passes_refine]
    cases ds.unserialize false <;> rfl
end Slinky.C14
