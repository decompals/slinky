/-
  C11, two-step clause: from the abstract scripts of `Props/C11TwoStep.lean` to the scripts the
  writer model generates.  The hypotheses of `two_step_document_same_order` are facts about shape:
  the segment part of every script is a sequence of `W.simple` lines and closed output-section
  blocks (`Chunks`), so the functions that read a script (`blockInputs`, `blocksOf`) see its input
  statements and its blocks and nothing else.
-/
import Props.C11
import Props.C11TwoStep
import Props.ImageDoc
namespace Slinky.C11
open Slinky W Ld

def isHdr : Line → Bool
  | .outHdr _ _ _ _ _ => true
  | _ => false

/-- a script part made of simple lines and closed output-section blocks whose bodies hold simple
lines and input statements; the second index lists the blocks, name and body. -/
inductive Chunks : List Line → List (Str × List Line) → Prop
  | nil : Chunks [] []
  | skip {l : Line} {ls : List Line} {gs : List (Str × List Line)} : simple l = true → Chunks ls gs → Chunks (l :: ls) gs
  | blk {n : Str} {nl : Bool} {a r : Option Str} {s : Option Nat} {body rest : List Line} {gs : List (Str × List Line)} :
      (∀ l ∈ body, simple l = true ∨ isInputB l = true) → Chunks rest gs →
      Chunks (.outHdr n nl a r s :: (body ++ .blockClose :: rest)) ((n, body) :: gs)

theorem Chunks.append {a b : List Line} {ga gb : List (Str × List Line)} (ha : Chunks a ga) (hb : Chunks b gb) :
    Chunks (a ++ b) (ga ++ gb) := by
  induction ha with
  | nil => exact hb
  | skip hq _ ih => exact Chunks.skip hq ih
  | @blk n nl a r s body rest gs hbody _ ih =>
    rw [List.cons_append, List.append_assoc, List.cons_append]
    exact Chunks.blk hbody ih

theorem Chunks.ofSimple {l : List Line} (h : ∀ x ∈ l, simple x = true) : Chunks l [] := by
  induction l with
  | nil => exact Chunks.nil
  | cons a as ih => exact Chunks.skip (h a List.mem_cons_self) (ih (fun x hx => h x (List.mem_cons_of_mem _ hx)))

theorem Chunks.block {pre F body post : List Line} (n : Str) (nl : Bool) (a r : Option Str) (s : Option Nat)
    (hpre : ∀ l ∈ pre, simple l = true) (hF : ∀ l ∈ F, simple l = true)
    (hbody : ∀ l ∈ body, simple l = true ∨ isInputB l = true) (hpost : ∀ l ∈ post, simple l = true) :
    Chunks (pre ++ [.outHdr n nl a r s, .blockOpen] ++ F ++ body ++ [.blockClose] ++ post) [(n, .blockOpen :: (F ++ body))] := by
  have hb : ∀ l ∈ (Line.blockOpen :: (F ++ body)), simple l = true ∨ isInputB l = true :=
    List.forall_mem_cons.2 ⟨.inl rfl, List.forall_mem_append.2 ⟨fun l h => .inl (hF l h), hbody⟩⟩
  have := (Chunks.ofSimple hpre).append (Chunks.blk (n := n) (nl := nl) (a := a) (r := r) (s := s) hb (Chunks.ofSimple hpost))
  simpa only [List.append_assoc, List.cons_append, List.nil_append] using this

/-- what a simple line is to the functions that read a script: no input statement, plain, no
header, no `}`, skipped by `blockInputs` and `blocksOf`. -/
structure Skipped (l : Line) : Prop where
  noInput : isInputB l = false
  plain : plain l = true
  noHdr : isHdr l = false
  noClose : l ≠ .blockClose
  blockInputs : ∀ b rest, blockInputs b (l :: rest) = blockInputs b rest
  blocksOf : ∀ rest, blocksOf (l :: rest) = blocksOf rest

theorem simple_facts {l : Line} (h : simple l = true) : Skipped l := by
  cases l with
  | outHdr | blockClose | input | singleEntry | discardHdr | discardPat => cases h
  | _ => exact ⟨rfl, rfl, rfl, nofun, fun _ _ => rfl, fun _ => rfl⟩

theorem filter_skip {l : Line} (h : isInputB l = false) (ls : List Line) : (l :: ls).filter isInputB = ls.filter isInputB :=
  List.filter_cons_of_neg (by rw [h]; exact Bool.false_ne_true)

theorem isInputB_eq {l : Line} (h : isInputB l = true) : ∃ k p m s w, l = .input k p m s w := by
  cases l using inputCases with
  | input k p m s w => exact ⟨k, p, m, s, w, rfl⟩
  | other hl _ => exact nomatch hl.symm.trans h

theorem body_facts {l : Line} (h : simple l = true ∨ isInputB l = true) : plain l = true ∧ isHdr l = false ∧ l ≠ .blockClose := by
  rcases h with h | h
  · exact ⟨(simple_facts h).plain, (simple_facts h).noHdr, (simple_facts h).noClose⟩
  · obtain ⟨k, p, m, s, w, rfl⟩ := isInputB_eq h
    exact ⟨rfl, rfl, nofun⟩

theorem filter_simple {l : List Line} (h : ∀ x ∈ l, simple x = true) : l.filter isInputB = [] :=
  List.filter_eq_nil_iff.2 fun x hx => by rw [(simple_facts (h x hx)).noInput]; exact Bool.false_ne_true

theorem blockInputs_body : ∀ (body : List Line) (R : List Line), (∀ l ∈ body, simple l = true ∨ isInputB l = true) →
    blockInputs true (body ++ R) = body.filter isInputB ++ blockInputs true R := by
  intro body
  induction body with
  | nil => intro R _; rfl
  | cons a as ih =>
    intro R h
    have hr := ih R (fun x hx => h x (List.mem_cons_of_mem _ hx))
    rcases h a List.mem_cons_self with hq | hi
    · rw [List.cons_append, (simple_facts hq).blockInputs, filter_skip (simple_facts hq).noInput, hr]
    · obtain ⟨k, p, m, s, w, rfl⟩ := isInputB_eq hi
      rw [List.cons_append, List.filter_cons_of_pos hi, List.cons_append, ← hr]
      rfl

/-- **inside output sections = everywhere**, for a script part made of simple lines and closed blocks. -/
theorem blockInputs_chunks {ls : List Line} {gs : List (Str × List Line)} (h : Chunks ls gs) (R : List Line) :
    blockInputs false (ls ++ R) = ls.filter isInputB ++ blockInputs false R := by
  induction h with
  | nil => rfl
  | @skip l ls gs hq _ ih =>
    rw [List.cons_append, (simple_facts hq).blockInputs, filter_skip (simple_facts hq).noInput, ih]
  | @blk n nl a r s body rest gs hbody _ ih =>
    have e : blockInputs false (Line.outHdr n nl a r s :: (body ++ Line.blockClose :: rest) ++ R)
        = blockInputs true (body ++ Line.blockClose :: (rest ++ R)) := by
      rw [List.cons_append, List.append_assoc, List.cons_append]; rfl
    rw [e, blockInputs_body body _ hbody, filter_skip rfl, List.filter_append,
      filter_skip rfl, List.append_assoc, ← ih]
    rfl

theorem plain_of_chunks {ls : List Line} {gs : List (Str × List Line)} (h : Chunks ls gs) : ∀ l ∈ ls, plain l = true := by
  induction h with
  | nil => intro l hl; cases hl
  | skip hq _ ih => exact List.forall_mem_cons.2 ⟨(simple_facts hq).plain, ih⟩
  | blk hbody _ ih =>
    refine List.forall_mem_cons.2 ⟨rfl, fun x hx => ?_⟩
    rcases List.mem_append.1 hx with hx | hx
    · exact (body_facts (hbody x hx)).1
    · rcases List.mem_cons.1 hx with rfl | hx
      · rfl
      · exact ih x hx

theorem inputs_chunks {ls : List Line} {gs : List (Str × List Line)} (h : Chunks ls gs) :
    ls.filter isInputB = (gs.flatMap (·.2)).filter isInputB := by
  induction h with
  | nil => rfl
  | skip hq _ ih => rw [filter_skip (simple_facts hq).noInput, ih]
  | blk _ _ ih =>
    rw [filter_skip rfl, List.filter_append, filter_skip rfl, ih,
      List.flatMap_cons, List.filter_append]

theorem blocksOf_noHdr : ∀ (A B : List Line), (∀ l ∈ A, isHdr l = false) → blocksOf (A ++ B) = blocksOf B := by
  intro A
  induction A with
  | nil => intro B _; rfl
  | cons a as ih =>
    intro B h
    have ha := h a List.mem_cons_self
    have hr := ih B (fun x hx => h x (List.mem_cons_of_mem _ hx))
    cases a with
    | outHdr => cases ha
    | _ => exact hr

theorem blocksOf_chunks {ls : List Line} {gs : List (Str × List Line)} (h : Chunks ls gs) (R : List Line) :
    blocksOf (ls ++ R) = gs ++ blocksOf R := by
  induction h with
  | nil => rfl
  | skip hq _ ih => rw [List.cons_append, (simple_facts hq).blocksOf, ih]
  | @blk n nl a r s body rest gs hbody _ ih =>
    rw [List.cons_append, List.append_assoc, List.cons_append, blocksOf,
      blockBody_prefix _ _ fun l hl => (body_facts (hbody l hl)).2.2,
      blocksOf_noHdr _ _ fun l hl => (body_facts (hbody l hl)).2.1]
    exact congrArg _ ih

theorem innerLine_ok (st : Style) (wild : Bool) (l : Line) (h : InnerLine st wild l) : simple l = true ∨ isInputB l = true :=
  h.simple_or_input.imp id fun ⟨_, _, _, _, e⟩ => e ▸ rfl

theorem chunks_writeSegment (cx : Ctx) (seg : Segment) (secs : List Str) (nl : Bool) (ls : List Line)
    (h : writeSegment cx seg secs nl = .ok ls) :
    ∃ n body, sectionLoop (groupE cx seg secs) secs = .ok body ∧ Chunks ls [(n, .blockOpen :: (fillLines seg ++ body))] := by
  obtain ⟨body, hbody, rfl⟩ := writeSegment_ok.1 h
  have hb : ∀ l ∈ body, simple l = true ∨ isInputB l = true := fun l hl => innerLine_ok _ _ l (sectionLoop_inner hbody l hl)
  unfold segmentStart
  cases nl
  · exact ⟨_, body, hbody, Chunks.block _ _ _ _ _ (kindStart_simple cx seg false) (fillLines_simple seg) hb (kindEnd_simple cx seg false)⟩
  · exact ⟨_, body, hbody, Chunks.block _ _ _ _ _ (kindStart_simple cx seg true) (fillLines_simple seg) hb (kindEnd_simple cx seg true)⟩

theorem chunks_addSegment (cx : Ctx) (em : List Str) (seg : Segment) (ls : List Line) (em' : List Str)
    (h : addSegment cx em seg = .ok (ls, em')) : ∃ gs, Chunks ls gs := by
  apply addSegment_elim h
  · intro _ _; exact ⟨_, Chunks.nil⟩
  · intro _ cls alloc noload hcls halloc hnoload
    obtain ⟨_, _, _, ha⟩ := chunks_writeSegment cx seg _ false alloc halloc
    obtain ⟨_, _, _, hn⟩ := chunks_writeSegment cx seg _ true noload hnoload
    rw [segmentLines_parts]
    exact ⟨_, (Chunks.ofSimple (classPart_simple hcls)).append <| (Chunks.ofSimple (segHead_simple cx seg)).append <|
      ha.append <| Chunks.skip rfl <| hn.append <| Chunks.skip rfl <| Chunks.ofSimple (segTail_simple cx seg)⟩

theorem chunks_addSegments (cx : Ctx) (l : List Segment) (em : List Str) (ls : List Line) (em' : List Str)
    (h : addSegments cx em l = .ok (ls, em')) : ∃ gs, Chunks ls gs :=
  addSegments_induction (P := fun _ _ ls _ => ∃ gs, Chunks ls gs) (fun _ => ⟨_, Chunks.nil⟩)
    (fun em seg _ a em1 _ _ ha _ ih => by
      obtain ⟨_, h1⟩ := chunks_addSegment cx em seg a em1 ha
      obtain ⟨_, h2⟩ := ih
      exact ⟨_, h1.append h2⟩) h

/-- **the segment part of a script**: its input statements inside output sections are all its
input statements, and it contains no single-entry section and no `/DISCARD/`. -/
theorem blockInputs_addSegments (cx : Ctx) (l : List Segment) (em : List Str) (ls : List Line) (em' : List Str)
    (h : addSegments cx em l = .ok (ls, em')) :
    blockInputs false ls = ls.filter isInputB ∧ ∀ x ∈ ls, plain x = true := by
  obtain ⟨gs, hc⟩ := chunks_addSegments cx l em ls em' h
  refine ⟨?_, plain_of_chunks hc⟩
  have := blockInputs_chunks hc []
  rwa [List.append_nil, blockInputs, List.append_nil] at this

/-- a loop over sections whose every round writes, as far as input statements go, what
`emitSection` gives for the section. -/
theorem inputs_sectionLoop {cx : Ctx} {seg : Segment} {secs : List Str} {f : Str → R (List Line)}
    (hf : ∀ s r, f s = .ok r → ∃ b, emitSection cx seg s secs = .ok b ∧ r.filter isInputB = b.filter isInputB)
    {l : List Str} {r : List Line} (h : sectionLoop f l = .ok r) :
    ∃ bs, mapE (fun sec => emitSection cx seg sec secs) l = .ok bs ∧ r.filter isInputB = bs.flatten.filter isInputB := by
  refine sectionLoop_induction (f := f)
    (P := fun l r => ∃ bs, mapE (fun sec => emitSection cx seg sec secs) l = .ok bs ∧ r.filter isInputB = bs.flatten.filter isInputB)
    ⟨[], rfl, rfl⟩ ?_ ?_ h
  · intro s r hr
    obtain ⟨b, hb, e⟩ := hf s r hr
    exact ⟨[b], by simp only [mapE, hb], by rw [e, List.flatten_singleton]⟩
  · rintro s t rest a r ha _ ⟨bs, hbs, e'⟩
    obtain ⟨b, hb, e⟩ := hf s a ha
    refine ⟨b :: bs, by rw [mapE, hb, hbs], ?_⟩
    rw [List.filter_append, List.filter_append, e, e', List.flatten_cons, List.filter_append]
    exact congrArg (· ++ _) (List.append_nil _)

theorem inputs_writeSegment (cx : Ctx) (seg : Segment) (secs : List Str) (nl : Bool) (ls : List Line)
    (h : writeSegment cx seg secs nl = .ok ls) :
    ∃ bs, mapE (fun sec => emitSection cx seg sec secs) secs = .ok bs ∧ ls.filter isInputB = bs.flatten.filter isInputB := by
  obtain ⟨n, body, hbody, hc⟩ := chunks_writeSegment cx seg secs nl ls h
  rw [inputs_chunks hc, List.flatMap_singleton, filter_skip rfl, List.filter_append,
    filter_simple (fillLines_simple seg), List.nil_append]
  refine inputs_sectionLoop (fun s r hr => ?_) hbody
  obtain ⟨b, hb, rfl⟩ := groupE_ok.1 hr
  refine ⟨b, hb, ?_⟩
  rw [C05.groupOf, List.filter_append, List.filter_append, filter_simple (sectionSymStart_simple cx seg s),
    filter_simple (sectionSymEnd_simple cx seg s), List.nil_append, List.append_nil]

theorem inputs_addSegment (cx : Ctx) (em : List Str) (seg : Segment) (ls : List Line) (em' : List Str)
    (h : addSegment cx em seg = .ok (ls, em')) (hinc : shouldEmit cx.o seg.cond = true) :
    ∃ ba bn, mapE (fun sec => emitSection cx seg sec seg.allocSections) seg.allocSections = .ok ba ∧
      mapE (fun sec => emitSection cx seg sec seg.noloadSections) seg.noloadSections = .ok bn ∧
      ls.filter isInputB = (ba ++ bn).flatten.filter isInputB := by
  apply addSegment_elim h
  · intro hex; rw [hinc] at hex; cases hex
  · intro _ cls alloc noload hcls halloc hnoload
    obtain ⟨ba, hba, hfa⟩ := inputs_writeSegment cx seg _ false alloc halloc
    obtain ⟨bn, hbn, hfn⟩ := inputs_writeSegment cx seg _ true noload hnoload
    refine ⟨ba, bn, hba, hbn, ?_⟩
    rw [segmentLines_parts]
    simp only [List.filter_append, List.filter_cons, hfa, hfn, filter_simple (classPart_simple hcls),
      filter_simple (segHead_simple cx seg), filter_simple (segTail_simple cx seg), List.flatten_append, List.nil_append,
      List.append_nil, isInputB, Bool.false_eq_true, if_false]

theorem excluded_addSegment (cx : Ctx) (em : List Str) (seg : Segment) (hexc : shouldEmit cx.o seg.cond = false) :
    addSegment cx em seg = .ok ([], em) :=
  addSegment_excluded hexc

theorem chunks_singleGroup {cx : Ctx} {seg : Segment} {secs : List Str} {nl : Bool} {sec : Str} {g : List Line}
    (h : singleGroupE cx seg secs nl sec = .ok g) :
    ∃ b, emitSection cx seg sec secs = .ok b ∧ Chunks g [(sec, .blockOpen :: (fillLines seg ++ b))] := by
  obtain ⟨b, hb, rfl⟩ := singleGroupE_ok.1 h
  exact ⟨b, hb, Chunks.block _ _ _ _ _ (sectionSymStart_simple cx seg sec) (fillLines_simple seg)
    (fun l hl => innerLine_ok _ _ l (.body (emitSection_body cx seg sec secs b hb l hl))) (sectionSymEnd_simple cx seg sec)⟩

theorem chunks_writeSingleSegment (cx : Ctx) (seg : Segment) (secs : List Str) (nl : Bool) (ls : List Line)
    (h : writeSingleSegment cx seg secs nl = .ok ls) :
    ∃ gs : List (Str × List Line), gs.map (·.1) = secs ∧ Chunks ls gs ∧
      ∃ bs, mapE (fun sec => emitSection cx seg sec secs) secs = .ok bs ∧
        (gs.flatMap (·.2)).filter isInputB = bs.flatten.filter isInputB := by
  obtain ⟨body, hbody, rfl⟩ := writeSingleSegment_ok.1 h
  obtain ⟨gs, hgs, hc⟩ : ∃ gs : List (Str × List Line), gs.map (·.1) = secs ∧ Chunks body gs := by
    refine sectionLoop_induction (f := singleGroupE cx seg secs nl)
      (P := fun l body => ∃ gs : List (Str × List Line), gs.map (·.1) = l ∧ Chunks body gs) ⟨[], rfl, .nil⟩ ?_ ?_ hbody
    · intro s r hr
      obtain ⟨b, _, hc⟩ := chunks_singleGroup hr
      exact ⟨_, rfl, hc⟩
    · rintro s t rest a r ha _ ⟨gs, hgs, hc⟩
      obtain ⟨b, _, hca⟩ := chunks_singleGroup ha
      refine ⟨(s, .blockOpen :: (fillLines seg ++ b)) :: gs, congrArg (s :: ·) hgs, ?_⟩
      rw [List.append_assoc]
      exact hca.append (.skip rfl hc)
  have hall : Chunks (kindStart cx seg nl ++ body ++ kindEnd cx seg nl) gs := by
    have := ((Chunks.ofSimple (kindStart_simple cx seg nl)).append hc).append (Chunks.ofSimple (kindEnd_simple cx seg nl))
    rwa [List.nil_append, List.append_nil] at this
  refine ⟨gs, hgs, hall, ?_⟩
  rw [← inputs_chunks hc]
  refine inputs_sectionLoop (fun s r hr => ?_) hbody
  obtain ⟨b, hb, hcb⟩ := chunks_singleGroup hr
  refine ⟨b, hb, ?_⟩
  rw [inputs_chunks hcb, List.flatMap_singleton, filter_skip rfl, List.filter_append,
    filter_simple (fillLines_simple seg), List.nil_append]

theorem endSections_noHdr (cx : Ctx) (em : List Str) : ∀ l ∈ endSections cx em, isHdr l = false := by
  intro l hl
  cases endSections_lines cx em l hl <;> rfl

/-- `blocks_partial_script` with or without section and kind symbols; `V`: the lines in front (the version comment). -/
theorem blocks_single_script (cx : Ctx) (seg : Segment)
    (V sub : List Line) (hV : ∀ l ∈ V, isHdr l = false) (h : addSingleSegment cx seg = .ok sub) :
    ∃ gs : List (Str × List Line), gs.map (·.1) = seg.allocSections ++ seg.noloadSections ∧
      (∃ ba bn, mapE (fun sec => emitSection cx seg sec seg.allocSections) seg.allocSections = .ok ba ∧
        mapE (fun sec => emitSection cx seg sec seg.noloadSections) seg.noloadSections = .ok bn ∧
        (gs.flatMap (·.2)).filter isInputB = (ba ++ bn).flatten.filter isInputB) ∧
      blocksOf (V ++ sub) = gs := by
  obtain ⟨alloc, noload, halloc, hnoload, rfl⟩ := addSingleSegment_ok.1 h
  obtain ⟨ga, hga, hca, ba, hba, hfa⟩ := chunks_writeSingleSegment cx seg _ false alloc halloc
  obtain ⟨gn, hgn, hcn, bn, hbn, hfn⟩ := chunks_writeSingleSegment cx seg _ true noload hnoload
  refine ⟨ga ++ gn, by rw [List.map_append, hga, hgn], ⟨ba, bn, hba, hbn, ?_⟩, ?_⟩
  · simp only [List.flatMap_append, List.filter_append, hfa, hfn, List.flatten_append]
  · have hc := (Chunks.ofSimple (singleHead_simple cx seg)).append <| hca.append <| Chunks.skip (l := .blank) rfl <|
      hcn.append <| Chunks.skip (l := .blank) rfl Chunks.nil
    rw [blocksOf_noHdr V _ hV]
    have := blocksOf_chunks hc (endSections cx [])
    simp only [List.append_assoc, List.cons_append, List.nil_append] at this ⊢
    have hE : blocksOf (endSections cx []) = [] := by
      have := blocksOf_noHdr _ [] (endSections_noHdr cx [])
      rwa [List.append_nil] at this
    rw [this, hE, List.append_nil]

/-- **the output sections of a partial script** are the section groups of its segment — the
allocatable ones, then the noload ones — each holding the statements the emitter gives for it. `hs` and `hk` are the
flags of the context partial scripts are written in; they are not used: `blocks_single_script` is the same statement
for every context. -/
theorem blocks_partial_script (cx : Ctx) (hs : cx.emitSecSyms = false) (hk : cx.emitKindSyms = false) (seg : Segment)
    (V sub : List Line) (hV : ∀ l ∈ V, isHdr l = false) (h : addSingleSegment cx seg = .ok sub) :
    ∃ gs : List (Str × List Line), gs.map (·.1) = seg.allocSections ++ seg.noloadSections ∧
      (∃ ba bn, mapE (fun sec => emitSection cx seg sec seg.allocSections) seg.allocSections = .ok ba ∧
        mapE (fun sec => emitSection cx seg sec seg.noloadSections) seg.noloadSections = .ok bn ∧
        (gs.flatMap (·.2)).filter isInputB = (ba ++ bn).flatten.filter isInputB) ∧
      blocksOf (V ++ sub) = gs :=
  blocks_single_script cx seg V sub hV h

theorem flatten_singletons {f : Str → R (List Line)} {g : Str → Line} (hf : ∀ s, f s = .ok [g s])
    {l : List Str} {bs : List (List Line)} (h : mapE f l = .ok bs) : bs.flatten = l.map g := by
  rw [← List.map_id bs, mapE_ok_map (φ := fun s => [g s]) (fun a b e => Except.ok.inj ((hf a).symm.trans e) ▸ rfl) h,
    ← List.flatMap_def, ← List.map_eq_flatMap]

/-- **what partial mode and ordinary mode generate for the same segments** (`qOf` names the
expansion of every partial-object path, `base` that of `base_path`): there is one `SegScripts`
per emitted segment whose groups — the segment's allocatable and noload sections in list order —
are the output sections of its partial script; the main script's input statements are its
`mainStmts` (one for the partial object per group) and the ordinary script's those of its groups. -/
theorem generated_shape (d : Document) (o : Opts) (vc : Bool) (folder : Str) (esc : Opts → Str → Except ErrKind Str)
    (base : Str) (hb : esc o d.settings.basePath = .ok base) (qOf : Segment → Str) :
    ∀ (l : List Segment) (em : List Str) (mainLs : List Line) (em' : List Str) (ps : List (Str × List Line)),
      partialSegments d o vc folder esc em l = .ok (mainLs, em', ps) →
      (∀ seg ∈ l, shouldEmit o seg.cond = true → esc o (pathPush folder (seg.name ++ c!".o")) = .ok (qOf seg)) →
      ∀ (em0 : List Str) (ordLs : List Line) (em0' : List Str),
        addSegments { d := d, o := o, esc := esc } em0 l = .ok (ordLs, em0') →
        ∃ segs : List SegScripts,
          ps.map (fun p => blocksOf p.2) = segs.map (·.groups) ∧
          segs.map (fun s => (s.obj, s.wild, s.groups.map (·.1)))
            = (l.filter fun seg => shouldEmit o seg.cond).map (fun seg =>
                (display (pathPush base (qOf seg)), seg.wildcardSections, seg.allocSections ++ seg.noloadSections)) ∧
          mainLs.filter isInputB = segs.flatMap (·.mainStmts) ∧
          ordLs.filter isInputB = (segs.flatMap (·.body)).filter isInputB := by
  intro l
  induction l with
  | nil =>
    intro em mainLs em' ps h _ em0 ordLs em0' ho
    cases partialSegments_nil_ok.1 h
    obtain ⟨rfl, -⟩ := addSegments_nil_ok.1 ho
    exact ⟨[], rfl, rfl, rfl, rfl⟩
  | cons seg rest ih =>
    intro em mainLs em' ps h hq em0 ordLs em0' ho
    have hqr : ∀ s ∈ rest, shouldEmit o s.cond = true → esc o (pathPush folder (s.name ++ c!".o")) = .ok (qOf s) :=
      fun s hs => hq s (List.mem_cons_of_mem _ hs)
    obtain ⟨x, e1, y, hx, hy, rfl⟩ := addSegments_cons_ok.1 ho
    cases hinc : shouldEmit o seg.cond
    · -- an excluded segment: nothing in either script
      rw [partialSegments_cons_excluded hinc] at h
      rw [addSegment_excluded (cx := { d := d, o := o, esc := esc }) hinc] at hx
      cases hx
      obtain ⟨segs, hP, hS, hM, hO⟩ := ih em mainLs em' ps h hqr em0 y em0' hy
      refine ⟨segs, hP, ?_, hM, hO⟩
      rw [List.filter_cons_of_neg (by rw [hinc]; exact Bool.false_ne_true)]
      exact hS
    · -- an emitted segment
      obtain ⟨sub, a, em1, b, ps2, hsub, ha, hbb, rfl, rfl⟩ := (partialSegments_cons_ok hinc).1 h
      obtain ⟨segs, hP, hS, hM, hO⟩ := ih em1 b em' ps2 hbb hqr e1 y em0' hy
      have hv : ∀ l ∈ versionComment vc, isHdr l = false := by cases vc <;> decide
      obtain ⟨gs, hnames, ⟨bap, bnp, hbap, hbnp, hgsin⟩, hblk⟩ :=
        blocks_single_script { d := d, o := o, emitKindSyms := false, emitSecSyms := false, esc := esc } seg
          (versionComment vc) sub hv hsub
      -- the main script: one statement for the partial object per section
      obtain ⟨bam, bnm, hbam, hbnm, hain⟩ := inputs_addSegment { d := d, o := o, refPartial := true, esc := esc } em
        (partialSegment folder seg) a em1 ha hinc
      have hmain := fun secs sec =>
        main_places_partial_object d o esc folder seg sec secs base (qOf seg) hb (hq seg List.mem_cons_self hinc)
      -- the ordinary script: the statements of the partial script
      obtain ⟨bao, bno, hbao, hbno, hxin⟩ := inputs_addSegment { d := d, o := o, esc := esc } em0 seg x e1 hx hinc
      simp only [same_statements] at hbap hbnp
      cases hbap.symm.trans hbao
      cases hbnp.symm.trans hbno
      refine ⟨⟨display (pathPush base (qOf seg)), seg.wildcardSections, gs⟩ :: segs, ?_, ?_, ?_, ?_⟩
      · rw [List.map_cons, List.map_cons, hblk, hP]
      · rw [List.filter_cons_of_pos (p := fun seg : Segment => shouldEmit o seg.cond) hinc, List.map_cons, List.map_cons, hS, ← hnames]
      · rw [List.filter_append, hM, List.flatMap_cons, hain, List.flatten_append, flatten_singletons (hmain _) hbam,
          flatten_singletons (hmain _) hbnm, ← List.map_append,
          show (partialSegment folder seg).allocSections ++ (partialSegment folder seg).noloadSections = _ from hnames.symm,
          List.map_map, List.filter_eq_self.2]
        · rfl
        · intro l hl
          obtain ⟨g, _, rfl⟩ := List.mem_map.1 hl
          rfl
      · rw [List.filter_append, hO, List.flatMap_cons, hxin, List.filter_append, ← hgsin]
        rfl

theorem zip_blocks : ∀ (segs : List SegScripts) (ps : List (Str × List Line)),
    ps.map (fun p => blocksOf p.2) = segs.map (·.groups) →
    (List.zipWith (fun (s : SegScripts) (p : Str × List Line) => (s.obj, p.2)) segs ps).map (fun p => (p.1, blocksOf p.2))
      = segs.map fun s => (s.obj, s.groups) := by
  intro segs
  induction segs with
  | nil => intro ps _; simp
  | cons s ss ih =>
    intro ps h
    cases ps with
    | nil => simp at h
    | cons p pp =>
      simp only [List.map_cons, List.cons.injEq] at h
      simp only [List.zipWith_cons_cons, List.map_cons, h.1, ih pp h.2]

/-- **C11, two-step clause, for the scripts the writer generates**: `partialSegments` (the segment
part `mainLs` of the main script and one partial script per emitted segment) against `addSegments`
of the same segment list (`ordLs`). There is a description `segs` of the emitted segments —
partial object, wildcard flag, section groups = the segment's allocatable and noload sections —
such that, whenever
* the section names of every emitted segment are pairwise different and no group's pattern
  matches the name of a later group of the same segment (`SegScripts.ok`),
* the partial objects have pairwise different paths, and
* no input section is selectable by the statements of two segments,
linking every partial script relocatably into its partial object and then the main script
puts the input sections in exactly the order of the one-step link of the ordinary script. -/
theorem generated_two_step (objs : List InSec) (d : Document) (o : Opts) (vc : Bool) (folder : Str)
    (esc : Opts → Str → Except ErrKind Str) (base : Str) (hb : esc o d.settings.basePath = .ok base) (qOf : Segment → Str)
    (l : List Segment) (em : List Str) (mainLs : List Line) (em' : List Str) (ps : List (Str × List Line))
    (hpart : partialSegments d o vc folder esc em l = .ok (mainLs, em', ps))
    (hq : ∀ seg ∈ l, shouldEmit o seg.cond = true → esc o (pathPush folder (seg.name ++ c!".o")) = .ok (qOf seg))
    (em0 : List Str) (ordLs : List Line) (em0' : List Str)
    (hord : addSegments { d := d, o := o, esc := esc } em0 l = .ok (ordLs, em0')) :
    ∃ segs : List SegScripts,
      segs.map (fun s => (s.obj, s.wild, s.groups.map (·.1)))
        = (l.filter fun seg => shouldEmit o seg.cond).map (fun seg =>
            (display (pathPush base (qOf seg)), seg.wildcardSections, seg.allocSections ++ seg.noloadSections)) ∧
      ((∀ s ∈ segs, s.ok) → (segs.map (·.obj)).Nodup →
        segs.Pairwise (fun a b => ∀ i ∈ objs, selectable a.body i = true → selectable b.body i = false) →
        twoStep objs (List.zipWith (fun (s : SegScripts) (p : Str × List Line) => (s.obj, p.2)) segs ps) mainLs
          = oneStep objs ordLs) := by
  obtain ⟨segs, hP, hS, hM, hO⟩ := generated_shape d o vc folder esc base hb qOf l em mainLs em' ps hpart hq em0 ordLs em0' hord
  refine ⟨segs, hS, ?_⟩
  intro hok hobj hdisj
  have hbm := blockInputs_addSegments _ _ em mainLs em' (partialSegments_ok hpart).1
  have hbo := blockInputs_addSegments { d := d, o := o, esc := esc } l em0 ordLs em0' hord
  refine two_step_document_same_order objs segs _ mainLs ordLs (zip_blocks segs ps hP) (hbm.1.trans hM) hbm.2 ?_ hbo.2
    hok hobj hdisj
  rw [hbo.1, hO, takeSeq_filter]

end Slinky.C11
