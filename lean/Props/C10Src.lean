/-
  C10, the class statements — tied to the source text (lean/Src/Formats.lean, regenerated from
  script_buffer.rs / linker_writer.rs on every run).
-/
import Src.Formats
import Slinkyv.Writer
import Props.Render
namespace Slinky.C10

theorem max_self_src (s other : Str) :
    (maxSelf s other).renderBody = fmt Src.sb__write_symbol_max_self_0 [.s s, .s s, .s other] := by
  unfold maxSelf Line.renderBody Expr.render Src.sb__write_symbol_max_self_0
  simp only [fmtNorm]
  rfl

theorem class_fixed_src (s : Str) (v : Nat) :
    (linkerSym s (.hex8 v)).renderBody
      = fmt Src.sb__write_symbol_assignment_3 [.s s, .s (fmt Src.lw__add_segment_0 [.n v])] := by
  unfold linkerSym Line.renderBody Expr.render Src.sb__write_symbol_assignment_3 Src.lw__add_segment_0
  simp only [fmtNorm]

/-- the initial value of a class start without an address of its own and of every class end. -/
theorem class_zero_src (s : Str) :
    (linkerSym s (.hex8 0)).renderBody
      = fmt Src.sb__write_symbol_assignment_3 [.s s, .s (fmt Src.lw__add_segment_1 [])]
    ∧ Src.lw__add_segment_1 = Src.lw__add_segment_2 := by
  constructor
  · unfold linkerSym Line.renderBody Expr.render Src.sb__write_symbol_assignment_3 Src.lw__add_segment_1
    simp only [fmtNorm]
    rfl
  · rfl

theorem class_size_src (s e b : Str) :
    (linkerSym s (.sub e b)).renderBody
      = fmt Src.sb__write_symbol_assignment_3 [.s s, .s (fmt Src.lw__end_sections_0 [.s e, .s b])] := by
  unfold linkerSym Line.renderBody Expr.render Src.sb__write_symbol_assignment_3 Src.lw__end_sections_0
  simp only [fmtNorm]

theorem counts_src : Src.sb__write_symbol_max_self_count = 1 ∧ Src.lw__add_segment_count = 12
    ∧ Src.lw__end_sections_count = 6 := ⟨rfl, rfl, rfl⟩

end Slinky.C10
