/-
  C20, the text layer of the outputs (version comment, indentation, line breaks, the per-segment file names of
  partial mode) — tied to the source text (lean/Src/Formats.lean, regenerated from script_buffer.rs,
  linker_writer.rs, partial_linker_writer.rs and version.rs on every run).
-/
import Src.Formats
import Slinkyv.Script
import Props.Render
namespace Slinky.C20

theorem version_comment_src :
    (Line.comment c!"Generated by slinky 0.3.1").renderBody
      = fmt Src.lw__new_0 [.n Src.version_major, .n Src.version_minor, .n Src.version_patch] := rfl

theorem indent_src (n : Nat) : indentOf n = (List.replicate n (fmt Src.sb__writeln_0 [])).flatten := by
  have : fmt Src.sb__writeln_0 [] = c!"    " := rfl
  rw [this]; rfl

theorem block_src : Line.blockOpen.renderBody = fmt Src.sb__begin_block_0 []
    ∧ Line.blockClose.renderBody = fmt Src.sb__end_block_0 []
    ∧ Line.blank.renderBody = fmt Src.sb__write_empty_line_0 []
    ∧ Line.sectionsKw.renderBody = fmt Src.lw__begin_sections_0 []
    ∧ Line.sectionsKw.renderBody = fmt Src.lw__add_single_segment_0 [] := ⟨rfl, rfl, rfl, rfl, rfl⟩

/-- `writeln!(dst, "{}", line)` for every line of the buffer. -/
theorem export_script_src (ls : List Line) :
    renderScript ls = ((renderLines 0 ls).map (fun l => fmt Src.lw__export_linker_script_0 [.s l] ++ c!"\n")).flatten := by
  have : (fun l : Str => fmt Src.lw__export_linker_script_0 [.s l] ++ c!"\n") = (fun l => l ++ ['\n']) := by
    funext l; unfold Src.lw__export_linker_script_0; simp only [fmtNorm]
  rw [this]; rfl

/-- `<segment>.o` is both the object the main script places and the target of the segment's dependency file. -/
theorem partial_names_src (name : Str) :
    name ++ c!".o" = fmt Src.plw__add_all_segments_1 [.s name]
    ∧ name ++ c!".o" = fmt Src.plw__save_other_files_2 [.s name]
    ∧ name ++ c!".ld" = fmt Src.plw__export_linker_script_to_file_1 [.s name]
    ∧ name ++ c!".d" = fmt Src.plw__save_other_files_3 [.s name] := by
  unfold Src.plw__add_all_segments_1 Src.plw__save_other_files_2 Src.plw__export_linker_script_to_file_1
    Src.plw__save_other_files_3
  refine ⟨?_, ?_, ?_, ?_⟩ <;> simp only [fmtNorm]

theorem joined_separator_src : (c!"\n" : Str) = fmt Src.plw__export_linker_script_to_string_0 [] := rfl

theorem counts_src : Src.lw__new_count = 1 ∧ Src.sb__writeln_count = 1 ∧ Src.sb__begin_block_count = 1
    ∧ Src.sb__end_block_count = 1 ∧ Src.lw__export_linker_script_count = 1
    ∧ Src.plw__add_all_segments_count = 2 ∧ Src.plw__save_other_files_count = 4
    ∧ Src.plw__export_linker_script_to_file_count = 2 ∧ Src.plw__export_linker_script_to_string_count = 1 :=
  ⟨rfl, rfl, rfl, rfl, rfl, rfl, rfl, rfl, rfl⟩

/-- every function of the three files and how many string literals it has: a function that starts to produce
text, or a new one, needs a model before this list is brought up to date. -/
theorem format_index_src : Src.formatIndex = [
  ("sb__new", 0),
  ("sb__write_empty_line", 1),
  ("sb__writeln", 1),
  ("sb__begin_block", 1),
  ("sb__end_block", 1),
  ("sb__write_single_entry_section", 1),
  ("sb__write_linker_symbol", 0),
  ("sb__write_symbol_assignment", 4),
  ("sb__align_symbol", 1),
  ("sb__write_symbol_max_self", 1),
  ("sb__write_assert", 1),
  ("sb__write_required_symbol", 3),
  ("sb__finish", 0),
  ("sb__get_buffer", 0),
  ("sb__get_linker_symbols", 0),
  ("sb__is_empty", 0),
  ("lw__new", 1),
  ("lw__new_reference_partial_objects", 0),
  ("lw__add_all_segments", 0),
  ("lw__add_entry", 1),
  ("lw__add_all_symbol_assignments", 0),
  ("lw__add_all_required_symbols", 0),
  ("lw__add_all_asserts", 0),
  ("lw__export_linker_script_to_file", 0),
  ("lw__export_linker_script_to_string", 0),
  ("lw__save_other_files", 0),
  ("lw__export_linker_script", 1),
  ("lw__export_dependencies_file", 7),
  ("lw__export_dependencies_file_to_file", 0),
  ("lw__export_dependencies_file_to_string", 0),
  ("lw__export_symbol_header", 9),
  ("lw__export_symbol_header_to_file", 0),
  ("lw__export_symbol_header_to_string", 0),
  ("lw__get_linker_symbols", 0),
  ("lw__set_emit_sections_kind_symbols", 0),
  ("lw__get_emit_sections_kind_symbols", 0),
  ("lw__set_emit_section_symbols", 0),
  ("lw__get_emit_section_symbols", 0),
  ("lw__begin_sections", 3),
  ("lw__end_sections", 6),
  ("lw__add_segment", 12),
  ("lw__add_single_segment", 3),
  ("lw__begin_symbol_assignments", 0),
  ("lw__end_symbol_assignments", 0),
  ("lw__add_symbol_assignment", 0),
  ("lw__begin_required_symbols", 0),
  ("lw__end_required_symbols", 0),
  ("lw__add_required_symbol", 0),
  ("lw__begin_asserts", 0),
  ("lw__end_asserts", 0),
  ("lw__add_assert", 0),
  ("lw__write_sym_end_size", 1),
  ("lw__write_sections_kind_start", 4),
  ("lw__write_sections_kind_end", 4),
  ("lw__write_section_symbol_start", 5),
  ("lw__write_section_symbol_end", 3),
  ("lw__write_segment_start", 10),
  ("lw__write_segment_end", 0),
  ("lw__emit_file", 16),
  ("lw__emit_section_for_file", 0),
  ("lw__emit_section", 0),
  ("lw__write_segment", 1),
  ("lw__write_single_segment", 5),
  ("plw__new", 0),
  ("plw__add_all_segments", 2),
  ("plw__add_entry", 0),
  ("plw__add_all_symbol_assignments", 0),
  ("plw__add_all_required_symbols", 0),
  ("plw__add_all_asserts", 0),
  ("plw__export_linker_script_to_file", 2),
  ("plw__export_linker_script_to_string", 1),
  ("plw__save_other_files", 4),
  ("plw__get_main_writer", 0),
  ("plw__get_partial_writers", 0)] := rfl

end Slinky.C20
