/-
  C01, the general case for one object / archive entry: `section_order` together with
  `sections_subgroups` (nested to any depth).  An entry that is no group emits its statement once
  per section name `emit_section_for_file` walks through for a group (`secsE`); the walk is
  studied for arbitrary "sent here" and "sub-groups of" functions under four hypotheses (no
  repetition in either, a section is sent to one group only, a sub-group section has one parent).
-/
import Props.C01Order
namespace Slinky.C01
open Slinky List

/-- the section names `emit_section_for_file` walks through for one entry and one group:
every section sent here, each followed by the walk through its sub-groups. -/
def secsE (here sub : Str → List Str) : Nat → Str → List Str → R (List Str)
  | 0, _, _ => .error .diverge
  | f + 1, sec, parents =>
    if sec ∈ parents then .error (.err .cyclicSubgroups) else
    concatMapE (fun k =>
      match concatMapE (fun o => secsE here sub f o (sec :: parents)) (sub k) with
      | .error e => .error e
      | .ok b => .ok (k :: b)) (here sec)

/-- the walk with its inner step written with `bind`, so that `bind_eq_ok` applies. -/
theorem secsE_succ (here sub : Str → List Str) (f : Nat) (sec : Str) (parents : List Str) :
    secsE here sub (f + 1) sec parents =
      if sec ∈ parents then .error (.err .cyclicSubgroups) else
      concatMapE (fun k => (concatMapE (fun o => secsE here sub f o (sec :: parents)) (sub k)).bind
        fun b => .ok (k :: b)) (here sec) := by
  rw [secsE]
  split
  · rfl
  · refine concatMapE_congr fun k _ => ?_
    generalize concatMapE _ (sub k) = X
    cases X <;> rfl

def mapR {α β} (g : α → β) : R (List α) → R (List β)
  | .ok l => .ok (l.map g)
  | .error e => .error e

def flatMapR {α β} (g : α → List β) : R (List α) → R (List β)
  | .ok l => .ok (l.flatMap g)
  | .error e => .error e

theorem mapR_eq_ok {α β} {g : α → β} {X : R (List α)} {r : List β} :
    mapR g X = .ok r ↔ ∃ l, X = .ok l ∧ r = l.map g := by
  cases X <;> simp [mapR, eq_comm]

theorem flatMapR_eq_ok {α β} {g : α → List β} {X : R (List α)} {r : List β} :
    flatMapR g X = .ok r ↔ ∃ l, X = .ok l ∧ r = l.flatMap g := by
  cases X <;> simp [flatMapR, eq_comm]

theorem concatMapE_flatMapR {α β γ} (g : β → List γ) (F : α → R (List β)) (l : List α) :
    concatMapE (fun a => flatMapR g (F a)) l = flatMapR g (concatMapE F l) := by
  induction l with
  | nil => rfl
  | cons a as ih =>
    rw [concatMapE_cons, concatMapE_cons, ih]
    cases F a <;> cases concatMapE F as <;> simp [flatMapR, appendE, Except.bind]

/-- the statement an object / archive entry writes for section `k`. -/
def leafLine (seg : Segment) (file : FileInfo) (base q : Str) (k : Str) : Line :=
  .input (keepFor file.keep k) (display (pathPush base q))
    (if file.kind = .archive then some file.subfile else none) k seg.wildcardSections

/-- an entry that is no group, with body `g`, writes `g k` for every section `k` of the walk and
nothing else, errors included — in a script that carries the entry itself (`hrp`: not the main
script of partial mode). -/
theorem emitEntry_eq_walk (cx : Ctx) (seg : Segment) (secs : List Str) (file : FileInfo) (base : Str) (g : Str → List Line)
    (hbody : ∀ grp k, fileBody cx seg grp file k base = .ok (g k)) (hng : file.kind ≠ .group)
    (hinc : shouldEmit cx.o file.cond = true) (hrp : cx.refPartial = false) :
    ∀ (n : Nat) (sec : Str) (parents : List Str),
      emitEntry cx seg secs n file sec base parents
        = flatMapR g (secsE (fun s => sectionsToEmitHere file.sectionOrder s secs) (subgroupsOf seg) n sec parents) := by
  intro n
  induction n with
  | zero => intro sec parents; rfl
  | succ n ih =>
    intro sec parents
    rw [emitEntry_succ, secsE_succ]
    simp only [hinc, Bool.not_true, Bool.false_eq_true, if_false, hrp, Bool.false_or, hng, decide_false, Bool.and_false,
      hbody, ih]
    split
    · rfl
    rw [← concatMapE_flatMapR]
    refine concatMapE_congr fun k _ => ?_
    rw [concatMapE_flatMapR]
    generalize concatMapE _ (subgroupsOf seg k) = X
    cases X <;> rfl

/-- **C01, `section_order` and sub-groups together**: an object or archive entry writes one
statement per section of the walk and nothing else, success and failure alike. -/
theorem emitEntry_eq_secsE (cx : Ctx) (seg : Segment) (secs : List Str) (file : FileInfo) (base q : Str)
    (hk : file.kind = .object ∨ file.kind = .archive)
    (hinc : shouldEmit cx.o file.cond = true) (hesc : cx.esc cx.o file.path = .ok q) (hrp : cx.refPartial = false) :
    ∀ (n : Nat) (sec : Str) (parents : List Str),
      emitEntry cx seg secs n file sec base parents
        = mapR (leafLine seg file base q)
            (secsE (fun s => sectionsToEmitHere file.sectionOrder s secs) (subgroupsOf seg) n sec parents) := by
  intro n sec parents
  rw [emitEntry_eq_walk cx seg secs file base (fun k => [leafLine seg file base q k]) ?_ ?_ hinc hrp]
  · generalize secsE _ _ n sec parents = X
    cases X with
    | error e => rfl
    | ok l => simp only [flatMapR, mapR, List.map_eq_flatMap]
  · intro grp k
    rcases hk with h | h <;> simp [fileBody, h, hesc, liftPath, Except.bind, leafLine]
  · rcases hk with h | h <;> simp [h]

/-! `here s`: the sections sent to group `s`; `sub k`: the sub-groups of section `k`. When a section is sent to one
group only (`oneGroup`) and a sub-group has one parent section (`oneParent`), a group has at most one group above it
(`Link.unique`), so two chains that end in the same group are suffix-comparable (`Path.suffix`). What a walk from
`sec` places is sent to the last group of a chain from `sec` none of whose groups is among `parents`: this is where
the cycle guard of the code is used (`secsE_path`). Hence two walks, each avoiding the group above the other's start,
share a section only when they start at the same group (`same_start`: the longer chain would pass through the group
above the shorter one's start); `secsE_nodup` and `secsE_disjoint` rest on it. -/

section walk
variable (here sub : Str → List Str)

/-- `o` is a sub-group of a section that is sent to group `s`. -/
def Link (s o : Str) : Prop := ∃ k, k ∈ here s ∧ o ∈ sub k

/-- `Path s ns t`: a chain of linked groups from `s` down to `t`; `ns` lists every group of the chain. -/
inductive Path : Str → List Str → Str → Prop
  | one (s : Str) : Path s [s] s
  | cons {s o t : Str} {ns : List Str} : Link here sub s o → Path o ns t → Path s (s :: ns) t

theorem Path.head {here sub} {s t : Str} {ns : List Str} (h : Path here sub s ns t) : ∃ r, ns = s :: r := by
  cases h with
  | one => exact ⟨[], rfl⟩
  | cons _ _ => exact ⟨_, rfl⟩

theorem Path.bot_mem {here sub} {s t : Str} {ns : List Str} (h : Path here sub s ns t) : t ∈ ns := by
  induction h with
  | one s => exact List.mem_cons_self
  | cons _ _ ih => exact List.mem_cons_of_mem _ ih

theorem Path.ends {here sub} {s t : Str} {ns : List Str} (h : Path here sub s ns t) : [t] <:+ ns := by
  induction h with
  | one s => exact List.suffix_refl _
  | cons _ _ ih => exact ih.trans (List.suffix_cons _ _)

theorem Path.snoc {here sub} {s t o : Str} {ns : List Str} (h : Path here sub s ns t) (hl : Link here sub t o) :
    Path here sub s (ns ++ [o]) o := by
  induction h with
  | one s => exact Path.cons hl (Path.one o)
  | cons hl' _ ih => exact Path.cons hl' (ih hl)

theorem Path.above {here sub} {s t o t' : Str} {ns ms : List Str} (h : Path here sub s ns t) (h' : Path here sub o ms t')
    (hs : ms <:+ ns) : (s = o ∧ ns = ms) ∨ ∃ p, p :: ms <:+ ns ∧ Link here sub p o := by
  obtain ⟨r, rfl⟩ := h'.head
  induction h with
  | one s =>
    rcases List.suffix_cons_iff.1 hs with e | hs'
    · exact .inl ⟨(List.cons.inj e).1.symm, e.symm⟩
    · cases List.suffix_nil.1 hs'
  | @cons s o' t ns' hl hp ih =>
    rcases List.suffix_cons_iff.1 hs with e | hs'
    · exact .inl ⟨(List.cons.inj e).1.symm, e.symm⟩
    · rcases ih hs' with ⟨rfl, e⟩ | ⟨p, hps, hlp⟩
      · exact .inr ⟨s, e ▸ List.suffix_refl _, hl⟩
      · exact .inr ⟨p, hps.trans (List.suffix_cons _ _), hlp⟩

variable (oneGroup : ∀ k s s', k ∈ here s → k ∈ here s' → s = s') (oneParent : ∀ o k k', o ∈ sub k → o ∈ sub k' → k = k')
  (hereNodup : ∀ s, (here s).Nodup) (subNodup : ∀ k, (sub k).Nodup)

include oneGroup oneParent in
theorem Link.unique {s s' o : Str} (h : Link here sub s o) (h' : Link here sub s' o) : s = s' := by
  obtain ⟨k, hk, ho⟩ := h
  obtain ⟨k', hk', ho'⟩ := h'
  obtain rfl := oneParent o k k' ho ho'
  exact oneGroup k s s' hk hk'

include oneGroup oneParent in
theorem Path.suffix {s1 t : Str} {n1 : List Str} (h1 : Path here sub s1 n1 t) :
    ∀ {s2 : Str} {n2 : List Str}, Path here sub s2 n2 t → n1 <:+ n2 ∨ n2 <:+ n1 := by
  induction h1 with
  | one s => exact fun h2 => .inl h2.ends
  | @cons s o t ns hl hp ih =>
    intro s2 n2 h2
    rcases ih h2 with hs | hs
    · rcases h2.above hp hs with ⟨_, e⟩ | ⟨p, hps, hlp⟩
      · exact .inr (e ▸ List.suffix_cons _ _)
      · obtain rfl : p = s := Link.unique here sub oneGroup oneParent hlp hl
        exact .inl hps
    · exact .inr (hs.trans (List.suffix_cons _ _))

variable {here sub}

theorem secsE_ok {f : Nat} {sec : Str} {parents l : List Str} (h : secsE here sub (f + 1) sec parents = .ok l) :
    sec ∉ parents ∧ concatMapE (fun k => (concatMapE (fun o => secsE here sub f o (sec :: parents)) (sub k)).bind
      fun b => .ok (k :: b)) (here sec) = .ok l := by
  rw [secsE_succ] at h
  split at h
  · cases h
  · exact ⟨‹_›, h⟩

variable (here sub)

theorem secsE_path_nodup : ∀ (f : Nat) (sec : Str) (parents : List Str) (l : List Str),
    secsE here sub f sec parents = .ok l → ∀ c ∈ l,
      ∃ ns t, Path here sub sec ns t ∧ c ∈ here t ∧ (∀ s ∈ ns, s ∉ parents) ∧ ns.Nodup := by
  intro f
  induction f with
  | zero => intro sec parents l h; cases h
  | succ f ih =>
    intro sec parents l h c hc
    obtain ⟨hp, h⟩ := secsE_ok h
    obtain ⟨k, hk, rk, hrk, hck⟩ := mem_of_concatMapE_ok h hc
    obtain ⟨b, hb, ⟨⟩⟩ := bind_eq_ok.1 hrk
    rcases List.mem_cons.1 hck with rfl | hcb
    · exact ⟨[sec], sec, Path.one sec, hk, by simpa using hp, by simp⟩
    · obtain ⟨o, ho, ro, hro, hco⟩ := mem_of_concatMapE_ok hb hcb
      obtain ⟨ns, t, hpath, hct, hav, hnd⟩ := ih o (sec :: parents) ro hro c hco
      exact ⟨sec :: ns, t, Path.cons ⟨k, hk, ho⟩ hpath, hct,
        List.forall_mem_cons.2 ⟨hp, fun s hs hsp => hav s hs (List.mem_cons_of_mem _ hsp)⟩,
        List.nodup_cons.2 ⟨fun hm => hav sec hm List.mem_cons_self, hnd⟩⟩

theorem secsE_path : ∀ (f : Nat) (sec : Str) (parents : List Str) (l : List Str),
    secsE here sub f sec parents = .ok l → ∀ c ∈ l,
      ∃ ns t, Path here sub sec ns t ∧ c ∈ here t ∧ ∀ s ∈ ns, s ∉ parents :=
  fun f sec parents l h c hc =>
    let ⟨ns, t, hp, hct, hav, _⟩ := secsE_path_nodup here sub f sec parents l h c hc
    ⟨ns, t, hp, hct, hav⟩

theorem secsE_complete : ∀ (f : Nat) (sec : Str) (parents : List Str) (l : List Str),
    secsE here sub f sec parents = .ok l → ∀ ns t c, Path here sub sec ns t → c ∈ here t → c ∈ l := by
  intro f
  induction f with
  | zero => intro sec parents l h; cases h
  | succ f ih =>
    intro sec parents l h ns t c hpath hct
    obtain ⟨_, h⟩ := secsE_ok h
    cases hpath with
    | one =>
      obtain ⟨_, hrk, hsub⟩ := subset_of_concatMapE_ok h hct
      obtain ⟨b, _, ⟨⟩⟩ := bind_eq_ok.1 hrk
      exact hsub c List.mem_cons_self
    | @cons _ o _ ns' hl hp' =>
      obtain ⟨k, hk, ho⟩ := hl
      obtain ⟨_, hrk, hsub⟩ := subset_of_concatMapE_ok h hk
      obtain ⟨b, hb, ⟨⟩⟩ := bind_eq_ok.1 hrk
      obtain ⟨ro, hro, hsubo⟩ := subset_of_concatMapE_ok hb ho
      exact hsub c (List.mem_cons_of_mem _ (hsubo c (ih o _ ro hro ns' t c hp' hct)))

theorem secsE_mem_iff (f : Nat) (sec : Str) (parents : List Str) (l : List Str)
    (h : secsE here sub f sec parents = .ok l) (c : Str) :
    c ∈ l ↔ ∃ ns t, Path here sub sec ns t ∧ c ∈ here t :=
  ⟨fun hc => by
      obtain ⟨ns, t, hp, hct, _⟩ := secsE_path here sub f sec parents l h c hc
      exact ⟨ns, t, hp, hct⟩,
   fun ⟨ns, t, hp, hct⟩ => secsE_complete here sub f sec parents l h ns t c hp hct⟩

theorem Path.top_eq {o1 o2 t : Str} {n1 n2 : List Str} (h1 : Path here sub o1 n1 t) (h2 : Path here sub o2 n2 t)
    (hs : n1 <:+ n2) (hup : ∀ p ∈ n2, ¬ Link here sub p o1) : o1 = o2 := by
  rcases h2.above h1 hs with ⟨e, _⟩ | ⟨p, hps, hl⟩
  · exact e.symm
  · exact absurd hl (hup p (hps.subset List.mem_cons_self))

include oneGroup oneParent in
theorem same_start {f1 f2 : Nat} {o1 o2 : Str} {av1 av2 : List Str} {l1 l2 : List Str}
    (h1 : secsE here sub f1 o1 av1 = .ok l1) (h2 : secsE here sub f2 o2 av2 = .ok l2)
    (hup1 : ∀ p, Link here sub p o1 → p ∈ av2) (hup2 : ∀ p, Link here sub p o2 → p ∈ av1)
    {c : Str} (hc1 : c ∈ l1) (hc2 : c ∈ l2) : o1 = o2 := by
  obtain ⟨n1, t1, hp1, hct1, hav1⟩ := secsE_path here sub f1 o1 av1 l1 h1 c hc1
  obtain ⟨n2, t2, hp2, hct2, hav2⟩ := secsE_path here sub f2 o2 av2 l2 h2 c hc2
  obtain rfl : t1 = t2 := oneGroup c t1 t2 hct1 hct2
  rcases Path.suffix here sub oneGroup oneParent hp1 hp2 with hs | hs
  · exact Path.top_eq here sub hp1 hp2 hs fun p hp hl => hav2 p hp (hup1 p hl)
  · exact (Path.top_eq here sub hp2 hp1 hs fun p hp hl => hav1 p hp (hup2 p hl)).symm

include hereNodup oneGroup subNodup oneParent in
theorem secsE_nodup : ∀ (f : Nat) (sec : Str) (parents : List Str) (l : List Str),
    secsE here sub f sec parents = .ok l → l.Nodup := by
  intro f
  induction f with
  | zero => intro sec parents l h; cases h
  | succ f ih =>
    intro sec parents l h
    obtain ⟨_, h⟩ := secsE_ok h
    -- the walks below `sec`: their upper neighbour is `sec`, which they avoid
    have hup : ∀ k ∈ here sec, ∀ o ∈ sub k, ∀ p, Link here sub p o → p ∈ sec :: parents := by
      intro k hk o ho p hl
      obtain rfl : p = sec := Link.unique here sub oneGroup oneParent hl ⟨k, hk, ho⟩
      exact List.mem_cons_self
    -- what they place is not sent to `sec`: the walk would have stopped at the cycle
    have hbelow : ∀ {k b x}, concatMapE (fun o => secsE here sub f o (sec :: parents)) (sub k) = .ok b → x ∈ b →
        x ∉ here sec := by
      intro k b x hb hx hxs
      obtain ⟨o, _, ro, hro, hxo⟩ := mem_of_concatMapE_ok hb hx
      obtain ⟨ns, t, hp, hct, hav⟩ := secsE_path here sub f o _ ro hro x hxo
      obtain rfl : t = sec := oneGroup x t sec hct hxs
      exact hav t hp.bot_mem List.mem_cons_self
    refine nodup_of_concatMapE_ok h (hereNodup sec) ?_ ?_
    · intro k hk rk hrk
      obtain ⟨b, hb, ⟨⟩⟩ := bind_eq_ok.1 hrk
      exact List.nodup_cons.2 ⟨fun hkb => hbelow hb hkb hk,
        nodup_of_concatMapE_ok hb (subNodup k) (fun o _ ro hro => ih o _ ro hro)
          fun o1 ho1 o2 ho2 hne r1 r2 hr1 hr2 x hx1 hx2 =>
            hne (same_start here sub oneGroup oneParent hr1 hr2 (hup k hk o1 ho1) (hup k hk o2 ho2) hx1 hx2)⟩
    · intro k1 hk1 k2 hk2 hne r1 r2 hr1 hr2 x hx1 hx2
      obtain ⟨b1, hb1, ⟨⟩⟩ := bind_eq_ok.1 hr1
      obtain ⟨b2, hb2, ⟨⟩⟩ := bind_eq_ok.1 hr2
      rcases List.mem_cons.1 hx1 with rfl | hx1 <;> rcases List.mem_cons.1 hx2 with rfl | hx2
      · exact hne rfl
      · exact hbelow hb2 hx2 hk1
      · exact hbelow hb1 hx1 hk2
      · obtain ⟨o1, ho1, ro1, hro1, hxo1⟩ := mem_of_concatMapE_ok hb1 hx1
        obtain ⟨o2, ho2, ro2, hro2, hxo2⟩ := mem_of_concatMapE_ok hb2 hx2
        obtain rfl : o1 = o2 :=
          same_start here sub oneGroup oneParent hro1 hro2 (hup k1 hk1 o1 ho1) (hup k2 hk2 o2 ho2) hxo1 hxo2
        exact hne (oneParent o1 k1 k2 ho1 ho2)

include oneGroup oneParent in
theorem secsE_disjoint {f1 f2 : Nat} {g1 g2 : Str} {l1 l2 : List Str}
    (h1 : secsE here sub f1 g1 [] = .ok l1) (h2 : secsE here sub f2 g2 [] = .ok l2)
    (htop1 : ∀ p, ¬ Link here sub p g1) (htop2 : ∀ p, ¬ Link here sub p g2)
    {c : Str} (hc1 : c ∈ l1) (hc2 : c ∈ l2) : g1 = g2 :=
  same_start here sub oneGroup oneParent h1 h2 (fun p hl => absurd hl (htop1 p)) (fun p hl => absurd hl (htop2 p)) hc1 hc2

end walk

/-! ### slinky's tables satisfy the four hypotheses -/

theorem here_one_group (order : List (Str × Str)) (hnd : (order.map (·.1)).Nodup) (secs : List Str) (k s s' : Str)
    (h : k ∈ sectionsToEmitHere order s secs) (h' : k ∈ sectionsToEmitHere order s' secs) : s = s' := by
  rw [mem_sectionsToEmitHere order hnd] at h h'
  exact h.symm.trans h'

theorem parentOf_eq (seg : Segment) (hv : (subgroupValues seg).Nodup) (o k : Str) (h : o ∈ subgroupsOf seg k) :
    parentOf seg o = some k := by
  obtain ⟨l, e, h⟩ := mem_subgroupsOf.1 h
  unfold parentOf
  unfold subgroupValues at hv
  generalize seg.sectionsSubgroups = sg at hv e
  induction sg with
  | nil => cases e
  | cons kv rest ih =>
    obtain ⟨k0, l0⟩ := kv
    simp only [List.map_cons, List.flatten_cons] at hv
    have hv' := List.nodup_append.1 hv
    unfold lookup at e
    split at e
    · cases e
      simp [List.find?, h, ‹k0 = k›]
    · have hno : o ∉ l0 := fun hm =>
        hv'.2.2 o hm o (List.mem_flatten.2 ⟨l, List.mem_map.2 ⟨(k, l), lookup_mem e, rfl⟩, h⟩) rfl
      simp only [List.find?, hno, decide_false]
      exact ih hv'.2.1 e

theorem sub_nodup (seg : Segment) (hv : (subgroupValues seg).Nodup) (k : Str) : (subgroupsOf seg k).Nodup := by
  unfold subgroupsOf
  cases h : lookup k seg.sectionsSubgroups with
  | none => exact List.nodup_nil
  | some l => exact (List.pairwise_flatten.1 hv).1 l (List.mem_map.2 ⟨(k, l), lookup_mem h, rfl⟩)

theorem sub_one_parent (seg : Segment) (hv : (subgroupValues seg).Nodup) (o k k' : Str)
    (h : o ∈ subgroupsOf seg k) (h' : o ∈ subgroupsOf seg k') : k = k' :=
  Option.some.inj ((parentOf_eq seg hv o k h).symm.trans (parentOf_eq seg hv o k' h'))

theorem leafLine_inj (seg : Segment) (file : FileInfo) (base q : Str) (k k' : Str)
    (h : leafLine seg file base q k = leafLine seg file base q k') : k = k' := by
  unfold leafLine at h
  injection h

theorem leafLine_mem_map {seg : Segment} {file : FileInfo} {base q c : Str} {l : List Str} :
    leafLine seg file base q c ∈ l.map (leafLine seg file base q) ↔ c ∈ l :=
  ⟨fun h => by obtain ⟨c', hm, e⟩ := List.mem_map.1 h; exact leafLine_inj _ _ _ _ _ _ e ▸ hm,
   List.mem_map_of_mem⟩

/-- the hypotheses of the theorems on one entry: an included object or archive entry whose path
expands, in a script that carries the entry itself; `section_order` has pairwise different keys
(a YAML mapping) and no section is listed as a sub-group twice. -/
structure LeafOk (cx : Ctx) (seg : Segment) (file : FileInfo) (q : Str) : Prop where
  kind : file.kind = .object ∨ file.kind = .archive
  inc : shouldEmit cx.o file.cond = true
  esc : cx.esc cx.o file.path = .ok q
  own : cx.refPartial = false
  keys : (file.sectionOrder.map (·.1)).Nodup
  subs : (subgroupValues seg).Nodup

/-- the walk behind an entry's statements for group `g`. -/
def walkOf (seg : Segment) (secs : List Str) (file : FileInfo) (n : Nat) (g : Str) : R (List Str) :=
  secsE (fun s => sectionsToEmitHere file.sectionOrder s secs) (subgroupsOf seg) n g []

theorem emitted_lines (cx : Ctx) (seg : Segment) (secs : List Str) (file : FileInfo) (base q : Str)
    (ok : LeafOk cx seg file q) (n : Nat) (g : Str) (ls : List Line)
    (h : emitEntry cx seg secs n file g base [] = .ok ls) :
    ∃ l, walkOf seg secs file n g = .ok l ∧ ls = l.map (leafLine seg file base q) := by
  rw [emitEntry_eq_secsE cx seg secs file base q ok.kind ok.inc ok.esc ok.own] at h
  exact mapR_eq_ok.1 h

theorem walkOf_nodup {seg : Segment} {secs : List Str} {file : FileInfo} {n : Nat} {g : Str} {l : List Str}
    (hkeys : (file.sectionOrder.map (·.1)).Nodup) (hsubs : (subgroupValues seg).Nodup)
    (h : walkOf seg secs file n g = .ok l) : l.Nodup :=
  secsE_nodup _ _ (here_one_group _ hkeys secs) (sub_one_parent seg hsubs) (sectionsToEmitHere_nodup _ hkeys secs)
    (sub_nodup seg hsubs) n g [] l h

theorem walkOf_mem_iff {seg : Segment} {secs : List Str} {file : FileInfo} {n : Nat} {g : Str} {l : List Str}
    (hkeys : (file.sectionOrder.map (·.1)).Nodup) (h : walkOf seg secs file n g = .ok l) (c : Str) :
    c ∈ l ↔ ∃ ns, Path (fun s => sectionsToEmitHere file.sectionOrder s secs) (subgroupsOf seg) g ns
      (destOf file.sectionOrder c) := by
  rw [secsE_mem_iff _ _ n g [] l h c]
  simp only [mem_sectionsToEmitHere _ hkeys, exists_eq_right']

/-- **at most once within a group**: the statements an entry contributes to one group are
pairwise different — one per section, each naming the entry's own path and member. -/
theorem leaf_once_per_group (cx : Ctx) (seg : Segment) (secs : List Str) (file : FileInfo) (base q : Str)
    (ok : LeafOk cx seg file q) (n : Nat) (g : Str) (ls : List Line)
    (h : emitEntry cx seg secs n file g base [] = .ok ls) :
    ls.Nodup ∧ ∀ l ∈ ls, ∃ k, l = leafLine seg file base q k := by
  obtain ⟨l, hw, rfl⟩ := emitted_lines cx seg secs file base q ok n g ls h
  refine ⟨(walkOf_nodup ok.keys ok.subs hw).map _ fun a b hab e => hab (leafLine_inj seg file base q a b e), fun x hx => ?_⟩
  obtain ⟨k, _, rfl⟩ := List.mem_map.1 hx
  exact ⟨k, rfl⟩

/-- **at most once over all groups**: two different groups that are themselves nobody's
sub-group (the segment's listed sections, when no listed section is also a sub-group) never
receive a statement for the same section of the entry. -/
theorem leaf_once_over_groups (cx : Ctx) (seg : Segment) (secs : List Str) (file : FileInfo) (base q : Str)
    (ok : LeafOk cx seg file q) (n1 n2 : Nat) (g1 g2 : Str) (ls1 ls2 : List Line)
    (h1 : emitEntry cx seg secs n1 file g1 base [] = .ok ls1) (h2 : emitEntry cx seg secs n2 file g2 base [] = .ok ls2)
    (ht1 : g1 ∉ subgroupValues seg) (ht2 : g2 ∉ subgroupValues seg)
    (c : Str) (hc1 : leafLine seg file base q c ∈ ls1) (hc2 : leafLine seg file base q c ∈ ls2) : g1 = g2 := by
  obtain ⟨l1, hw1, rfl⟩ := emitted_lines cx seg secs file base q ok n1 g1 ls1 h1
  obtain ⟨l2, hw2, rfl⟩ := emitted_lines cx seg secs file base q ok n2 g2 ls2 h2
  exact secsE_disjoint _ _ (here_one_group _ ok.keys secs) (sub_one_parent seg ok.subs) hw1 hw2
    (fun p ⟨_, _, ho⟩ => ht1 (subgroupsOf_subset ho)) (fun p ⟨_, _, ho⟩ => ht2 (subgroupsOf_subset ho))
    (leafLine_mem_map.1 hc1) (leafLine_mem_map.1 hc2)

/-- **where a section is placed**: the entry's statement for section `c` is in group `g` iff a
chain leads from `g` to the destination of `c`: `g` itself is the destination `section_order`
names for `c` (or `c` itself when it is no key), or the destination is a sub-group of a section
that is in turn placed in `g`. -/
theorem leaf_placed_iff (cx : Ctx) (seg : Segment) (secs : List Str) (file : FileInfo) (base q : Str)
    (ok : LeafOk cx seg file q) (n : Nat) (g : Str) (ls : List Line)
    (h : emitEntry cx seg secs n file g base [] = .ok ls) (c : Str) :
    leafLine seg file base q c ∈ ls ↔
      ∃ ns, Path (fun s => sectionsToEmitHere file.sectionOrder s secs) (subgroupsOf seg) g ns (destOf file.sectionOrder c) := by
  obtain ⟨l, hw, rfl⟩ := emitted_lines cx seg secs file base q ok n g ls h
  rw [leafLine_mem_map, walkOf_mem_iff ok.keys hw]

/-- the slot a group stands for: itself when listed, else the place of its sub-group parent. -/
def slotOf (seg : Segment) (order : List (Str × Str)) (f : Nat) (v : Str) : Option Str :=
  if v ∈ seg.allocSections ++ seg.noloadSections then some v
  else match parentOf seg v with
    | some k => locOf seg order f k
    | none => none

theorem locOf_succ (seg : Segment) (order : List (Str × Str)) (f : Nat) (c : Str) :
    locOf seg order (f + 1) c = slotOf seg order f (destOf order c) := by
  rw [locOf]
  rfl

theorem mem_subgroupsOf_of_parentOf (seg : Segment) (hkeys : (seg.sectionsSubgroups.map (·.1)).Nodup) {v k : Str}
    (h : parentOf seg v = some k) : v ∈ subgroupsOf seg k := by
  obtain ⟨kv, hf, rfl⟩ := Option.map_eq_some_iff.1 h
  have hv := List.find?_some hf
  exact mem_subgroupsOf.2 ⟨kv.2, (lookup_eq_some_iff kv.1 _ hkeys kv.2).2 (List.mem_of_find?_eq_some hf),
    of_decide_eq_true hv⟩

/-- `locOf` (the group the run-time monitor of C01 expects a section in) only ever answers with a
listed group from which a chain leads to the section's destination. -/
theorem locOf_path (seg : Segment) (order : List (Str × Str)) (secs : List Str)
    (hord : (order.map (·.1)).Nodup) (hkeys : (seg.sectionsSubgroups.map (·.1)).Nodup) :
    ∀ (f : Nat) (c g : Str), locOf seg order f c = some g →
      g ∈ seg.allocSections ++ seg.noloadSections ∧
      ∃ ns, Path (fun s => sectionsToEmitHere order s secs) (subgroupsOf seg) g ns (destOf order c) := by
  intro f
  induction f with
  | zero => intro c g h; cases h
  | succ f ih =>
    intro c g h
    rw [locOf_succ, slotOf] at h
    split at h
    · cases h
      exact ⟨‹_›, [_], Path.one _⟩
    · split at h
      · rename_i k hk
        obtain ⟨hg, ns, hp⟩ := ih k g h
        exact ⟨hg, _, hp.snoc ⟨k, (mem_sectionsToEmitHere order hord _ secs k).2 rfl,
          mem_subgroupsOf_of_parentOf seg hkeys hk⟩⟩
      · cases h

/-- **every expected placement is found**: where the specification expects section `c` of the
entry in group `g`, the statements the entry contributes to `g` contain the one for `c`. -/
theorem expected_is_placed (cx : Ctx) (seg : Segment) (secs : List Str) (file : FileInfo) (base q : Str)
    (ok : LeafOk cx seg file q) (hkeys : (seg.sectionsSubgroups.map (·.1)).Nodup)
    (n : Nat) (g : Str) (ls : List Line) (h : emitEntry cx seg secs n file g base [] = .ok ls)
    (f : Nat) (c : Str) (hloc : locOf seg file.sectionOrder f c = some g) :
    leafLine seg file base q c ∈ ls :=
  (leaf_placed_iff cx seg secs file base q ok n g ls h c).2
    (locOf_path seg file.sectionOrder secs ok.keys hkeys f c g hloc).2

theorem Path.length_le {here sub : Str → List Str} (H2 : ∀ k s s', k ∈ here s → k ∈ here s' → s = s')
    (keys : List Str) (hkeys : ∀ k o, o ∈ sub k → k ∈ keys) {s t : Str} {ns : List Str} (h : Path here sub s ns t) (hnd : ns.Nodup) :
    ns.length ≤ keys.length + 1 := by
  -- every link uses up a key: generalised to any list holding the keys used below a group of the chain
  suffices ∀ keys : List Str, (∀ x ∈ ns, ∀ k ∈ here x, ∀ o ∈ sub k, k ∈ keys) → ns.length ≤ keys.length + 1 from
    this keys fun _ _ k _ o ho => hkeys k o ho
  induction h with
  | one s => intro keys _; simp
  | @cons s o t ns' hl hp ih =>
    intro keys hk
    obtain ⟨k, hks, ho⟩ := hl
    have hnd' := List.nodup_cons.1 hnd
    have hmem : k ∈ keys := hk s List.mem_cons_self k hks o ho
    -- `k` is sent to `s` only, and `s` does not occur again
    have := ih hnd'.2 (keys.erase k) fun x hx k' hk' o' ho' =>
      (List.mem_erase_of_ne fun (e : k' = k) => hnd'.1 (H2 k s x hks (e ▸ hk') ▸ hx)).2
        (hk x (List.mem_cons_of_mem _ hx) k' hk' o' ho')
    rw [List.length_erase_of_mem hmem] at this
    have := List.length_pos_of_mem hmem
    simp only [List.length_cons]
    omega

theorem slot_along_path (seg : Segment) (order : List (Str × Str)) (secs : List Str)
    (hord : (order.map (·.1)).Nodup) (hv : (subgroupValues seg).Nodup)
    (hdis : ∀ x ∈ subgroupValues seg, x ∉ seg.allocSections ++ seg.noloadSections)
    {s t : Str} {ns : List Str} (h : Path (fun s => sectionsToEmitHere order s secs) (subgroupsOf seg) s ns t) :
    ∀ f, slotOf seg order (ns.length - 1 + f) t = slotOf seg order f s := by
  induction h with
  | one s => intro f; simp
  | @cons s o t ns' hl hp ih =>
    intro f
    obtain ⟨k, hk, ho⟩ := hl
    obtain ⟨r, hr⟩ := hp.head
    have hlen : (s :: ns').length - 1 + f = ns'.length - 1 + (f + 1) := by
      rw [hr]; simp; omega
    rw [hlen, ih (f + 1)]
    have hnl : o ∉ seg.allocSections ++ seg.noloadSections := hdis o (subgroupsOf_subset ho)
    have hdest : destOf order k = s := (mem_sectionsToEmitHere order hord s secs k).1 hk
    unfold slotOf
    rw [if_neg hnl, parentOf_eq seg hv o k ho]
    simp only
    rw [locOf_succ, hdest]
    rfl

/-- **every found placement is where the specification puts it**: when the entry's statement for
section `c` is in the listed group `g`, `locOf` with the fuel the specification uses answers `g` —
for a segment in which no section is a sub-group twice and no listed section is a sub-group (two of
the conjuncts of `wellFormed`). `C01.expected` asks `locOf` about the configured sections
(`confOf`) only; the last conjunct of `wellFormed` (keys and destinations of `section_order` are configured sections) is
used by no theorem. -/
theorem placed_is_expected (cx : Ctx) (seg : Segment) (secs : List Str) (file : FileInfo) (base q : Str)
    (ok : LeafOk cx seg file q)
    (hdis : ∀ x ∈ subgroupValues seg, x ∉ seg.allocSections ++ seg.noloadSections)
    (n : Nat) (g : Str) (hg : g ∈ seg.allocSections ++ seg.noloadSections) (ls : List Line)
    (h : emitEntry cx seg secs n file g base [] = .ok ls) (c : Str) (hc : leafLine seg file base q c ∈ ls) :
    locOf seg file.sectionOrder (seg.sectionsSubgroups.length + 2) c = some g := by
  obtain ⟨l, hw, rfl⟩ := emitted_lines cx seg secs file base q ok n g ls h
  obtain ⟨ns, t, hp, hct, _, hnd⟩ := secsE_path_nodup _ _ n g [] l hw c (leafLine_mem_map.1 hc)
  have hdest : destOf file.sectionOrder c = t := (mem_sectionsToEmitHere _ ok.keys t secs c).1 hct
  have hlen : ns.length ≤ (seg.sectionsSubgroups.map (·.1)).length + 1 :=
    hp.length_le (here_one_group _ ok.keys secs) _ (fun k o ho => by
      obtain ⟨l', e, _⟩ := mem_subgroupsOf.1 ho
      exact List.mem_map.2 ⟨(k, l'), lookup_mem e, rfl⟩) hnd
  simp only [List.length_map] at hlen
  have hpos := List.length_pos_of_mem hp.bot_mem
  have hf : seg.sectionsSubgroups.length + 1 = ns.length - 1 + (seg.sectionsSubgroups.length + 2 - ns.length) := by omega
  rw [locOf_succ, hdest, hf, slot_along_path seg _ secs ok.keys ok.subs hdis hp]
  unfold slotOf
  rw [if_pos hg]

/-! ### a concrete table: two walks computed, and the keys of its `section_order` are pairwise different -/

/-- `.rodata` has the sub-group `.rdata`, which in turn has `.lit`; `section_order` sends `.rdata`
to `.data`: the walk of `.data` places `.rdata` (unlisted sections sort first), `.lit`, `.data`; the walk of `.rodata` only `.rodata`. -/
def exOrder : List (Str × Str) := [(c!".rdata", c!".data")]
def exSub (k : Str) : List Str :=
  (lookup k [(c!".rodata", [c!".rdata"]), (c!".rdata", [c!".lit"])]).getD []
def exSecs : List Str := [c!".text", c!".data", c!".rodata"]

example : secsE (fun s => sectionsToEmitHere exOrder s exSecs) exSub 4 c!".data" []
    = .ok [c!".rdata", c!".lit", c!".data"] := rfl
example : secsE (fun s => sectionsToEmitHere exOrder s exSecs) exSub 4 c!".rodata" [] = .ok [c!".rodata"] := rfl
example : (exOrder.map (·.1)).Nodup := by decide

/-- the statement a pad or linker-offset entry writes when the walk reaches its own section. -/
def markLine (cx : Ctx) (file : FileInfo) : Line :=
  if file.kind = .pad then .addAssign c!"." (.hex file.padAmount)
  else linkerSym (cx.d.settings.style.linkerOffset file.linkerOffsetName) .dot

/-- a pad or linker offset writes its statement once per occurrence of its own section in the
walk, and nothing else (the same walk as for an object). -/
theorem mark_eq_secsE (cx : Ctx) (seg : Segment) (secs : List Str) (file : FileInfo) (base : Str)
    (hk : file.kind = .pad ∨ file.kind = .linkerOffset)
    (hinc : shouldEmit cx.o file.cond = true) (hrp : cx.refPartial = false) :
    ∀ (n : Nat) (sec : Str) (parents : List Str),
      emitEntry cx seg secs n file sec base parents
        = flatMapR (fun k => if file.sect = k then [markLine cx file] else [])
            (secsE (fun s => sectionsToEmitHere file.sectionOrder s secs) (subgroupsOf seg) n sec parents) := by
  refine emitEntry_eq_walk cx seg secs file base _ ?_ ?_ hinc hrp
  · intro grp k
    rcases hk with h | h <;> simp [fileBody, h, markLine]
  · rcases hk with h | h <;> simp [h]

theorem flatMap_single {α β} [DecidableEq α] (x : α) (y : β) : ∀ (l : List α), l.Nodup →
    l.flatMap (fun k => if x = k then [y] else []) = if x ∈ l then [y] else [] := by
  intro l
  induction l with
  | nil => intro _; rfl
  | cons a as ih =>
    intro hnd
    have hnd' := List.nodup_cons.1 hnd
    simp only [List.flatMap_cons, ih hnd'.2, List.mem_cons]
    by_cases e : x = a
    · subst e
      simp [hnd'.1]
    · simp [e]

/-- **a pad or linker offset sits exactly where its section is placed**: in a group it
contributes its one statement when a chain leads from the group to (the destination of) its
section, and nothing otherwise — so a pad on a sub-group section is written in the group that
holds that sub-group. -/
theorem mark_placed (cx : Ctx) (seg : Segment) (secs : List Str) (file : FileInfo) (base : Str)
    (hk : file.kind = .pad ∨ file.kind = .linkerOffset)
    (hinc : shouldEmit cx.o file.cond = true) (hrp : cx.refPartial = false)
    (hkeys : (file.sectionOrder.map (·.1)).Nodup) (hsubs : (subgroupValues seg).Nodup)
    (n : Nat) (g : Str) (ls : List Line) (h : emitEntry cx seg secs n file g base [] = .ok ls) :
    (ls = [markLine cx file] ∨ ls = []) ∧
    (ls = [markLine cx file] ↔
      ∃ ns, Path (fun s => sectionsToEmitHere file.sectionOrder s secs) (subgroupsOf seg) g ns (destOf file.sectionOrder file.sect)) := by
  rw [mark_eq_secsE cx seg secs file base hk hinc hrp] at h
  obtain ⟨l, hw, rfl⟩ := flatMapR_eq_ok.1 h
  rw [flatMap_single _ _ l (walkOf_nodup hkeys hsubs hw), ← walkOf_mem_iff hkeys hw]
  by_cases hm : file.sect ∈ l <;> simp [hm]

end Slinky.C01
