/-
  C12 — the dependency file lists exactly what the script references.
-/
import Props.WriterInv
namespace Slinky.C12
open Slinky

/-- in ordinary mode the prerequisites are the paths of the script's input statements, each
once, in order of first occurrence; no other kind of line contributes. -/
theorem deps_of_script (d : Document) (o : Opts) (vc : Bool) (out : Outputs)
    (h : generate d o .normal vc = .ok out) :
    (∀ t, out.deps = some t →
        ∃ tgt, d.settings.targetPath = some tgt ∧ ∃ p, escapePath o tgt = .ok p ∧
          t = depsText vc (display p) (dedup (inputPaths out.lines))) ∧
    (out.deps = none → d.settings.targetPath = none) :=
  W.mainDeps_ok (W.generate_main h).1

/-- the same in partial mode, where the script in question is the main script (whose input
statements are the partial objects). -/
theorem deps_of_main_partial (d : Document) (o : Opts) (vc : Bool) (out : Outputs)
    (h : generate d o .partialLink vc = .ok out) :
    ∀ t, out.deps = some t →
        ∃ tgt, d.settings.targetPath = some tgt ∧ ∃ p, escapePath o tgt = .ok p ∧
          t = depsText vc (display p) (dedup (inputPaths out.lines)) :=
  (W.mainDeps_ok (W.generate_main h).1).1

/-- every per-segment dependency text that `partialDepsOf` computes (the `partialDeps` of `generate`) belongs to the
partial script of the same name and lists the distinct input paths of that script. -/
theorem partial_deps_of_partial_scripts (d : Document) (o : Opts) (vc : Bool)
    (partials : List (Str × List Line)) (pdeps : List (Str × Str))
    (hp : partialDepsOf d o vc escapePath partials = .ok pdeps) :
    pdeps.length = partials.length ∧
    ∀ pd pl, (pd, pl) ∈ pdeps.zip partials →
      pd.1 = pl.1 ∧ ∃ t, partialTarget d o pl.1 = .ok t ∧ pd.2 = depsText vc t (dedup (inputPaths pl.2)) := by
  unfold partialDepsOf at hp
  have := mapE_zip _ _ _ hp
  refine ⟨this.1, ?_⟩
  intro pd pl hmem
  have h2 := this.2 pl pd (by
    rw [List.mem_iff_getElem] at hmem ⊢
    obtain ⟨i, hi, he⟩ := hmem
    simp only [List.getElem_zip] at he
    refine ⟨i, by simpa [List.length_zip, Nat.min_comm] using hi, ?_⟩
    simp only [List.getElem_zip]
    cases he; rfl)
  split at h2
  · contradiction
  · rename_i t ht
    injection h2 with h2
    subst h2
    exact ⟨rfl, t, ht, rfl⟩

/-- "exactly the distinct paths": the prerequisite list has no repetition and contains a path
iff some input statement of the script names it. -/
theorem prereqs_exact (ls : List Line) :
    (dedup (inputPaths ls)).Nodup ∧
    ∀ p, p ∈ dedup (inputPaths ls) ↔ ∃ k m s w, Line.input k p m s w ∈ ls := by
  refine ⟨nodup_dedup _, ?_⟩
  intro p
  rw [mem_dedup]
  unfold inputPaths
  simp only [List.mem_filterMap]
  constructor
  · rintro ⟨l, hl, hp⟩
    unfold Line.inputPath? at hp
    split at hp
    · cases hp; exact ⟨_, _, _, _, hl⟩
    · cases hp
  · rintro ⟨k, m, s, w, hl⟩
    exact ⟨_, hl, rfl⟩

/-- shape of the dependency text: `<target>:` + one continuation line per prerequisite +
an empty line + one empty rule `<p>:` per prerequisite. -/
theorem shape (vc : Bool) (t : Str) (ps : List Str) :
    depsText false t ps =
      t ++ c!":" ++ (ps.map (fun p => c!" \\\n    " ++ p)).flatten ++ c!"\n\n"
        ++ (ps.map (fun p => p ++ c!":\n")).flatten ∧
    depsText vc t ps = (if vc then c!"# Generated by slinky 0.3.1\n\n" else []) ++ depsText false t ps := by
  constructor
  · rfl
  · cases vc
    · rfl
    · simp only [depsText, if_true, Bool.false_eq_true, if_false, List.nil_append, List.append_assoc]
      rfl

end Slinky.C12
