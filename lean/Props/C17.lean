/-
  C17 — top-level statements and `_gp` are emitted exactly as specified.
-/
import Props.C06
import Props.ImageGroup
namespace Slinky.C17
open Slinky

def nonBlank (l : Line) : Bool := match l with | .blank => false | _ => true

theorem render_assign (n v : Str) (p h lk : Bool) :
    (Line.assign n (.sym v) p h lk).renderBody = wrap p h (n ++ c!" = " ++ v) := by
  cases p <;> cases h <;> rfl

theorem filter_map_nonBlank {α} (f : α → Line) (l : List α) (hf : ∀ a, nonBlank (f a) = true) :
    (l.map f).filter nonBlank = l.map f :=
  List.filter_eq_self.2 fun x hx => by obtain ⟨a, _, rfl⟩ := List.mem_map.1 hx; exact hf a

theorem blankCons_render {α} (f : α → Line) (hf : ∀ a, nonBlank (f a) = true) (l : List α) (p : α → Bool) :
    (((if l.isEmpty then [] else Line.blank :: (l.filter p).map f)).filter nonBlank).map Line.renderBody
      = (l.filter p).map (fun a => (f a).renderBody) := by
  cases l with
  | nil => rfl
  | cons a as =>
    rw [if_neg (by simp), List.filter_cons_of_neg (by simp [nonBlank]), filter_map_nonBlank _ _ hf, List.map_map]
    rfl

/-- **statements after `SECTIONS`.** Ignoring blank lines, what `add_whole_document` writes
after the segments is, as text and in this order: one `ENTRY` if `entry` is given; one
assignment per *included* symbol assignment, in document order, wrapped per its two flags;
`EXTERN(n)` followed by `ASSERT((DEFINED(n)), …)` per included required symbol; one
`ASSERT((check), "Error: msg")` per included assert. -/
theorem top_statements (d : Document) (o : Opts) :
    ((topLevel d o).filter nonBlank).map Line.renderBody = expectedTop d o := by
  unfold topLevel expectedTop
  simp only [← C06.predicate, List.filter_append, List.map_append]
  congr 1
  congr 1
  congr 1
  · cases d.entry <;> rfl
  · rw [blankCons_render _ (fun a => rfl)]
    exact List.map_congr_left fun a _ => render_assign _ _ _ _ _
  · cases d.requiredSymbols with
    | nil => rfl
    | cons r rs =>
      rw [if_neg (by simp), List.filter_cons_of_neg (by simp [nonBlank]), List.filter_flatten, List.map_flatten,
        List.map_map, List.map_map]
      -- `EXTERN(n);` is the same text on both sides; the `ASSERT` texts differ in how their pieces are bracketed
      refine congrArg List.flatten (List.map_congr_left fun a _ => congrArg (fun t => [_, t]) ?_)
      unfold Line.renderBody
      simp only [List.append_assoc]
      rfl
  · exact blankCons_render _ (fun a => rfl) _ _

/-- **`_gp` from `gp_info`** is written after both start alignments of the group of `sec` and before
its start symbol, iff the segment's `gp_info` is included and names `sec`:
`_gp = . + 0x<offset as u32>` with the requested wrapper. -/
theorem gp_position (cx : Ctx) (seg : Segment) (sec : Str) (h : cx.emitSecSyms = true) :
    sectionSymStart cx seg sec =
      (match seg.sectionStartAlign with | some a => [alignSymbol c!"." a] | none => [])
      ++ (match lookup sec seg.sectionsStartAlignment with | some a => [alignSymbol c!"." a] | none => [])
      ++ (match seg.gpInfo with
          | some gp => if C06.specEmit cx.o gp.cond ∧ gp.sect = sec
                       then [Line.assign c!"_gp" (.dotPlus (toHexI32 gp.offset)) gp.provide gp.hidden false] else []
          | none => [])
      ++ [linkerSym (cx.d.settings.style.secStart seg.name sec) .dot] := by
  rw [Ld.groupStart_eq cx seg sec h, gpLine]
  congr 2
  cases seg.gpInfo with
  | none => rfl
  | some gp => simp [C06.predicate]

/-- a partial sub-script (section symbols off) never defines `_gp` through `gp_info`: `write_section_symbol_start` writes
nothing there. -/
theorem no_gp_in_partial_scripts (cx : Ctx) (seg : Segment) (sec : Str) (h : cx.emitSecSyms = false) :
    sectionSymStart cx seg sec = [] := by
  simp [sectionSymStart, h]

/-- the hardcoded `_gp` is written once at the head of `SECTIONS` (multi-segment and main
partial scripts) iff `hardcoded_gp_value` is set. -/
theorem hardcoded_gp (cx : Ctx) :
    beginSections cx = [.sectionsKw, .blockOpen, .assign c!"__romPos" (.hex 0) false false false]
      ++ (match cx.d.settings.hardcodedGpValue with
          | some v => [.assign c!"_gp" (.hex8 v) false false false] | none => [])
      ++ [.blank] := rfl

open Ld in
/-- **C17, image clause for `gp_info`**: behind the section group's statements `_gp` holds the start
of the group — the location counter after both start alignments, the value of the group's start
symbol (`C05.image_group_symbols`) — plus `offset`, as a 32-bit value. -/
theorem image_gp_value (objs : List InSec) (cx : Ctx) (seg : Segment) (sec : Str) (hsy : cx.emitSecSyms = true)
    (body : List Line) (hb : ∀ l ∈ body, W.BodyLine cx.d.settings.style seg.wildcardSections l)
    (gp : GpInfo) (hgp : seg.gpInfo = some gp) (hem : shouldEmit cx.o gp.cond = true) (hsec : gp.sect = sec)
    (off : Nat) (hoff : parseHex (toHexI32 gp.offset) = some off)
    (c : Cur) (st : St) (hin : Inside c st) (k : List Line) :
    lookupLast c!"_gp" (execK objs st (sectionSymStart cx seg sec ++ body ++ sectionSymEnd cx seg sec) k).syms
      = some (.num ((c.addr + alignO (lookup sec seg.sectionsStartAlignment) (alignO seg.sectionStartAlign (st.dot - c.addr)) + off) % M32)) :=
  group_gp_image objs cx seg sec hsy body hb gp hgp hem hsec off hoff c st hin k

/-- the offsets `toHexI32` prints are read back as the 32-bit two's complement value (checked
on the values the documentation mentions; a test, not a theorem about all offsets). -/
example : parseHex (toHexI32 0x7FF0) = some 0x7FF0 := by decide
example : parseHex (toHexI32 (-16)) = some 0xFFFFFFF0 := by decide
example : parseHex (toHexI32 0) = some 0 := by decide

end Slinky.C17
