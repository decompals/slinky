/-
  When does a writer function succeed, and with what: one inversion (`_ok`) per function of `Slinkyv.Writer` (an equivalence, except `partialSegments_ok` and `mainDeps_ok`, which
  give what a successful call returned), for
  `classPart` and `addSegment` also as a case principle (`_elim`), induction along `sectionLoop` and `addSegments`;
  the exact shape of `end_sections`, and which kinds of lines it and the top-level part can hold.
-/
import Props.Writer
namespace Slinky

/-- the lines `write_segment` writes for one section, `emitted` being what `emit_section` gave. -/
def C05.groupOf (cx : Ctx) (seg : Segment) (sec : Str) (emitted : List Line) : List Line :=
  sectionSymStart cx seg sec ++ emitted ++ sectionSymEnd cx seg sec

/-- the class-size symbols `end_sections` writes first. -/
def C18.classSizes (cx : Ctx) (emitted : List Str) : List Line :=
  ((dedup (cx.d.vramClasses.map (·.name))).filter (· ∈ emitted)).map
    (fun n => linkerSym (cx.d.settings.style.classSize n)
      (.sub (cx.d.settings.style.classEnd n) (cx.d.settings.style.classStart n)))

namespace W

def fillLines (seg : Segment) : List Line :=
  match seg.fillValue with | some v => [.fill v] | none => []

theorem fillLines_cases (seg : Segment) : fillLines seg = [] ∨ ∃ v, fillLines seg = [.fill v] := by
  unfold fillLines; cases seg.fillValue <;> simp

theorem fillLines_simple (seg : Segment) : ∀ l ∈ fillLines seg, simple l = true := by
  unfold fillLines
  cases seg.fillValue <;> exact simple_all rfl

/-- what the per-section loop of `write_segment` runs for one section. -/
def groupE (cx : Ctx) (seg : Segment) (secs : List Str) (sec : Str) : R (List Line) :=
  (emitSection cx seg sec secs).bind fun body => .ok (C05.groupOf cx seg sec body)

theorem groupE_ok {cx : Ctx} {seg : Segment} {secs : List Str} {sec : Str} {g : List Line} :
    groupE cx seg secs sec = .ok g ↔ ∃ b, emitSection cx seg sec secs = .ok b ∧ g = C05.groupOf cx seg sec b :=
  bind_ok_eq_ok

theorem sectionLoop_cons_cons_ok {f : Str → R (List Line)} {s t : Str} {rest : List Str} {r : List Line} :
    sectionLoop f (s :: t :: rest) = .ok r ↔
      ∃ a b, f s = .ok a ∧ sectionLoop f (t :: rest) = .ok b ∧ r = a ++ [.blank] ++ b := by
  rw [sectionLoop_cons_cons]
  exact bind₂_eq_ok

theorem sectionLoop_induction {f : Str → R (List Line)} {P : List Str → List Line → Prop}
    (nil : P [] []) (one : ∀ s r, f s = .ok r → P [s] r)
    (cons : ∀ s t rest a b, f s = .ok a → sectionLoop f (t :: rest) = .ok b → P (t :: rest) b →
      P (s :: t :: rest) (a ++ [.blank] ++ b)) :
    ∀ {l : List Str} {r : List Line}, sectionLoop f l = .ok r → P l r := by
  intro l
  induction l with
  | nil => intro r h; cases h; exact nil
  | cons s l ih =>
    intro r h
    cases l with
    | nil => exact one s r h
    | cons t rest =>
      obtain ⟨a, b, ha, hb, rfl⟩ := sectionLoop_cons_cons_ok.1 h
      exact cons s t rest a b ha hb (ih hb)

theorem sectionLoop_split (f : Str → R (List Line)) : ∀ (s1 : List Str) (sec : Str) (s2 : List Str) (body : List Line),
    sectionLoop f (s1 ++ sec :: s2) = .ok body → ∃ P g Q, f sec = .ok g ∧ body = P ++ g ++ Q := by
  intro s1 sec s2 body h
  have hs : sec ∈ s1 ++ sec :: s2 := List.mem_append_right _ List.mem_cons_self
  revert hs
  refine sectionLoop_induction (P := fun l body => sec ∈ l → ∃ P g Q, f sec = .ok g ∧ body = P ++ g ++ Q)
    (fun hs => nomatch hs) ?_ ?_ h
  · intro s r hr hs
    cases List.mem_singleton.1 hs
    exact ⟨[], r, [], hr, (List.append_nil _).symm⟩
  · intro s t rest a b ha _ ih hs
    rcases List.mem_cons.1 hs with rfl | hs
    · exact ⟨[], a, [.blank] ++ b, ha, List.append_assoc _ _ _⟩
    · obtain ⟨P, g, Q, hg, rfl⟩ := ih hs
      exact ⟨a ++ [.blank] ++ P, g, Q, hg, by simp only [List.append_assoc]⟩

/-! ### `write_segment`, `write_single_segment`

A model function written as `match x with | .error e => .error e | .ok a => …` is `x.bind fun a => …` up to its
auxiliary matcher, which `isDefEq` unfolds only with `smartUnfolding` off: there the lemmas of `Except.bind` apply to it
as they stand (a pattern `.ok (a, b)` reads the two projections of the bound value). For the two recursive functions (`addSegments`,
`partialSegments`) this unification costs more than the case analysis it would replace. -/

set_option smartUnfolding false in
theorem writeSegment_ok {cx : Ctx} {seg : Segment} {secs : List Str} {nl : Bool} {ls : List Line} :
    writeSegment cx seg secs nl = .ok ls ↔
      ∃ body, sectionLoop (groupE cx seg secs) secs = .ok body ∧
        ls = segmentStart cx seg nl ++ fillLines seg ++ body ++ [.blockClose] ++ kindEnd cx seg nl :=
  bind_ok_eq_ok

theorem sectionLoop_inner {cx : Ctx} {seg : Segment} {secs secs' : List Str} {body : List Line}
    (h : sectionLoop (groupE cx seg secs) secs' = .ok body) :
    ∀ l ∈ body, InnerLine cx.d.settings.style seg.wildcardSections l := by
  intro l hl
  rcases sectionLoop_mem _ _ _ h l hl with rfl | ⟨s, _, g, hg, hlg⟩
  · exact .blank
  · obtain ⟨b, hb, rfl⟩ := groupE_ok.1 hg
    simp only [C05.groupOf, List.mem_append] at hlg
    rcases hlg with (hlg | hlg) | hlg
    · exact sectionSymStart_inner cx seg s l hlg
    · exact .body (emitSection_body cx seg s secs b hb l hlg)
    · exact sectionSymEnd_inner cx seg s l hlg

/-- what the per-section loop of `write_single_segment` runs for one section. -/
def singleGroupE (cx : Ctx) (seg : Segment) (secs : List Str) (nl : Bool) (sec : Str) : R (List Line) :=
  (emitSection cx seg sec secs).bind fun body =>
    .ok (sectionSymStart cx seg sec ++ [.outHdr sec nl none none seg.subalign, .blockOpen] ++ fillLines seg
      ++ body ++ [.blockClose] ++ sectionSymEnd cx seg sec)

theorem singleGroupE_ok {cx : Ctx} {seg : Segment} {secs : List Str} {nl : Bool} {sec : Str} {g : List Line} :
    singleGroupE cx seg secs nl sec = .ok g ↔ ∃ b, emitSection cx seg sec secs = .ok b ∧
      g = sectionSymStart cx seg sec ++ [.outHdr sec nl none none seg.subalign, .blockOpen] ++ fillLines seg
        ++ b ++ [.blockClose] ++ sectionSymEnd cx seg sec :=
  bind_ok_eq_ok

set_option smartUnfolding false in
theorem writeSingleSegment_ok {cx : Ctx} {seg : Segment} {secs : List Str} {nl : Bool} {ls : List Line} :
    writeSingleSegment cx seg secs nl = .ok ls ↔
      ∃ body, sectionLoop (singleGroupE cx seg secs nl) secs = .ok body ∧ ls = kindStart cx seg nl ++ body ++ kindEnd cx seg nl :=
  bind_ok_eq_ok

/-- what `add_single_segment` writes in front of the two parts. -/
def singleHead (cx : Ctx) (seg : Segment) : List Line :=
  [.sectionsKw, .blockOpen]
  ++ (if cx.emitSecSyms then
        match cx.d.settings.hardcodedGpValue with
        | some v => [.assign c!"_gp" (.hex8 v) false false false, .blank] | none => []
      else [])
  ++ (match seg.fixedVram with
      | some v => [.assign c!"." (.hex8 v) false false false, .blank] | none => [])

theorem singleHead_simple (cx : Ctx) (seg : Segment) : ∀ l ∈ singleHead cx seg, simple l = true := by
  unfold singleHead
  refine List.forall_mem_append.2 ⟨List.forall_mem_append.2 ⟨simple_all rfl, ?_⟩, ?_⟩
  · split
    · cases cx.d.settings.hardcodedGpValue <;> exact simple_all rfl
    · exact fun _ h => nomatch h
  · cases seg.fixedVram <;> exact simple_all rfl

set_option smartUnfolding false in
theorem addSingleSegment_ok {cx : Ctx} {seg : Segment} {ls : List Line} :
    addSingleSegment cx seg = .ok ls ↔
      ∃ alloc noload, writeSingleSegment cx seg seg.allocSections false = .ok alloc ∧
        writeSingleSegment cx seg seg.noloadSections true = .ok noload ∧
        ls = singleHead cx seg ++ alloc ++ [.blank] ++ noload ++ [.blank] ++ endSections cx [] :=
  bind₂_eq_ok

/-- a projection that sees nothing between the braces of an output section sees only its frame
(`romView`, `hdrOf`, "is `/DISCARD/`" are such). -/
theorem filterMap_writeSegment {β} (f : Line → Option β) {cx : Ctx} {seg : Segment} {secs : List Str} {nl : Bool} {ls : List Line}
    (hin : ∀ l, InnerLine cx.d.settings.style seg.wildcardSections l → f l = none)
    (h : writeSegment cx seg secs nl = .ok ls) :
    ls.filterMap f = (segmentStart cx seg nl).filterMap f ++ (fillLines seg).filterMap f
      ++ [Line.blockClose].filterMap f ++ (kindEnd cx seg nl).filterMap f := by
  obtain ⟨body, hb, rfl⟩ := writeSegment_ok.1 h
  simp only [List.filterMap_append, List.filterMap_eq_nil_iff.2 (fun l hl => hin l (sectionLoop_inner hb l hl)), List.append_nil]

theorem classPart_elim {cx : Ctx} {em : List Str} {seg : Segment} {cls : List Line} {em' : List Str}
    {motive : List Line → Prop} (h : classPart cx em seg = .ok (cls, em'))
    (silent : em' = em → (seg.vramClass = none ∨ ∃ c vc, seg.vramClass = some c ∧ findClass cx.d c = some vc ∧ c ∈ em) → motive [])
    (opens : ∀ c vc, seg.vramClass = some c → findClass cx.d c = some vc → c ∉ em → em' = em ++ [c] → motive (classIntro cx c vc)) :
    motive cls := by
  revert h
  unfold classPart
  cases hc : seg.vramClass with
  | none => intro h; obtain ⟨rfl, rfl⟩ := Prod.mk.inj (Except.ok.inj h); exact silent rfl (Or.inl hc)
  | some c =>
    dsimp only
    cases hf : findClass cx.d c with
    | none => intro h; exact nomatch h
    | some vc =>
      dsimp only
      by_cases hm : c ∈ em
      · rw [if_pos hm]; intro h; obtain ⟨rfl, rfl⟩ := Prod.mk.inj (Except.ok.inj h)
        exact silent rfl (Or.inr ⟨c, vc, hc, hf, hm⟩)
      · rw [if_neg hm]; intro h; obtain ⟨rfl, rfl⟩ := Prod.mk.inj (Except.ok.inj h)
        exact opens c vc hc hf hm rfl

theorem classPart_ok {cx : Ctx} {em : List Str} {seg : Segment} {cls : List Line} {em' : List Str} :
    classPart cx em seg = .ok (cls, em') ↔
      (cls = [] ∧ em' = em ∧ (seg.vramClass = none ∨ ∃ c vc, seg.vramClass = some c ∧ findClass cx.d c = some vc ∧ c ∈ em)) ∨
      (∃ c vc, seg.vramClass = some c ∧ findClass cx.d c = some vc ∧ c ∉ em ∧ cls = classIntro cx c vc ∧ em' = em ++ [c]) := by
  constructor
  · intro h
    apply classPart_elim h
    · exact fun he hh => Or.inl ⟨rfl, he, hh⟩
    · exact fun c vc h1 h2 h3 he => Or.inr ⟨c, vc, h1, h2, h3, rfl, he⟩
  · rintro (⟨rfl, rfl, hc | ⟨c, vc, hc, hf, hm⟩⟩ | ⟨c, vc, hc, hf, hm, rfl, rfl⟩)
    · simp only [classPart, hc]
    · simp only [classPart, hc, hf, if_pos hm]
    · simp only [classPart, hc, hf, if_neg hm]

theorem addSegment_excluded {cx : Ctx} {em : List Str} {seg : Segment} (h : shouldEmit cx.o seg.cond = false) :
    addSegment cx em seg = .ok ([], em) := by
  simp [addSegment, h]

set_option smartUnfolding false in
/-- `apply addSegment_elim h` leaves the excluded and the emitted case. -/
theorem addSegment_elim {cx : Ctx} {em : List Str} {seg : Segment} {a : List Line} {em' : List Str}
    {motive : List Line → Prop} (h : addSegment cx em seg = .ok (a, em'))
    (excluded : shouldEmit cx.o seg.cond = false → em' = em → motive [])
    (emitted : shouldEmit cx.o seg.cond = true → ∀ cls alloc noload, classPart cx em seg = .ok (cls, em') →
      writeSegment cx seg seg.allocSections false = .ok alloc → writeSegment cx seg seg.noloadSections true = .ok noload →
      motive (segmentLines cx seg cls alloc noload)) : motive a := by
  unfold addSegment at h
  cases hs : shouldEmit cx.o seg.cond
  · rw [hs] at h
    obtain ⟨rfl, rfl⟩ := Prod.mk.inj (Except.ok.inj h)
    exact excluded hs rfl
  · rw [hs, if_neg (by decide)] at h
    obtain ⟨⟨cls, em1⟩, hc, h⟩ := bind_eq_ok.1 h
    obtain ⟨alloc, ha, h⟩ := bind_eq_ok.1 h
    obtain ⟨noload, hn, h⟩ := bind_eq_ok.1 h
    obtain ⟨rfl, rfl⟩ := Prod.mk.inj (Except.ok.inj h)
    exact emitted hs _ _ _ hc ha hn

theorem addSegment_ok {cx : Ctx} {em : List Str} {seg : Segment} {a : List Line} {em' : List Str} :
    addSegment cx em seg = .ok (a, em') ↔
      (shouldEmit cx.o seg.cond = false ∧ a = [] ∧ em' = em) ∨
      (shouldEmit cx.o seg.cond = true ∧ ∃ cls alloc noload, classPart cx em seg = .ok (cls, em') ∧
        writeSegment cx seg seg.allocSections false = .ok alloc ∧
        writeSegment cx seg seg.noloadSections true = .ok noload ∧
        a = segmentLines cx seg cls alloc noload) := by
  constructor
  · intro h
    apply addSegment_elim h
    · exact fun hs he => Or.inl ⟨hs, rfl, he⟩
    · exact fun hs cls alloc noload hcp ha hn => Or.inr ⟨hs, cls, alloc, noload, hcp, ha, hn, rfl⟩
  · intro h
    cases h with
    | inl h => rw [h.2.1, h.2.2]; exact addSegment_excluded h.1
    | inr h =>
      obtain ⟨hs, cls, alloc, noload, hcp, ha, hn, e⟩ := h
      rw [e, addSegment, hs, hcp, ha, hn]; rfl

@[simp] theorem addSegments_nil_ok {cx : Ctx} {em : List Str} {ls : List Line} {em' : List Str} :
    addSegments cx em [] = .ok (ls, em') ↔ ls = [] ∧ em' = em := by
  simp [addSegments, eq_comm]

theorem addSegments_cons_ok {cx : Ctx} {em : List Str} {seg : Segment} {rest : List Segment} {ls : List Line} {em' : List Str} :
    addSegments cx em (seg :: rest) = .ok (ls, em') ↔
      ∃ a em1 b, addSegment cx em seg = .ok (a, em1) ∧ addSegments cx em1 rest = .ok (b, em') ∧ ls = a ++ b := by
  simp only [addSegments]
  constructor
  · cases addSegment cx em seg with
    | error e => intro h; exact nomatch h
    | ok r =>
      obtain ⟨a, em1⟩ := r
      dsimp only
      cases h2 : addSegments cx em1 rest with
      | error e => intro h; exact nomatch h
      | ok r2 =>
        intro h; obtain ⟨rfl, rfl⟩ := Prod.mk.inj (Except.ok.inj h); exact ⟨a, em1, r2.1, rfl, h2, rfl⟩
  · intro h; obtain ⟨a, em1, b, ha, hb, e⟩ := h; rw [ha]; dsimp only; rw [hb, e]

theorem addSegments_induction {cx : Ctx} {P : List Str → List Segment → List Line → List Str → Prop}
    (nil : ∀ em, P em [] [] em)
    (cons : ∀ em seg rest a em1 b em', addSegment cx em seg = .ok (a, em1) → addSegments cx em1 rest = .ok (b, em') →
      P em1 rest b em' → P em (seg :: rest) (a ++ b) em') :
    ∀ {segs em ls em'}, addSegments cx em segs = .ok (ls, em') → P em segs ls em' := by
  intro segs
  induction segs with
  | nil => intro em ls em' h; obtain ⟨rfl, rfl⟩ := addSegments_nil_ok.1 h; exact nil _
  | cons seg rest ih =>
    intro em ls em' h
    obtain ⟨a, em1, b, ha, hb, rfl⟩ := addSegments_cons_ok.1 h
    exact cons _ _ _ _ _ _ _ ha hb (ih hb)

theorem addSegments_append_ok {cx : Ctx} {pre post : List Segment} {em : List Str} {ls : List Line} {em' : List Str} :
    addSegments cx em (pre ++ post) = .ok (ls, em') ↔
      ∃ a em1 b, addSegments cx em pre = .ok (a, em1) ∧ addSegments cx em1 post = .ok (b, em') ∧ ls = a ++ b := by
  induction pre generalizing em ls with
  | nil =>
    refine ⟨fun h => ⟨[], em, ls, rfl, h, rfl⟩, ?_⟩
    rintro ⟨_, _, _, h0, h, rfl⟩
    obtain ⟨rfl, rfl⟩ := addSegments_nil_ok.1 h0
    exact h
  | cons p pre ih =>
    rw [List.cons_append, addSegments_cons_ok]
    constructor
    · rintro ⟨a, em1, _, ha, hr, rfl⟩
      obtain ⟨b, em2, c, hb, hc, rfl⟩ := ih.1 hr
      exact ⟨a ++ b, em2, c, addSegments_cons_ok.2 ⟨a, em1, b, ha, hb, rfl⟩, hc, (List.append_assoc _ _ _).symm⟩
    · rintro ⟨_, em2, c, hab, hc, rfl⟩
      obtain ⟨a, em1, b, ha, hb, rfl⟩ := addSegments_cons_ok.1 hab
      exact ⟨a, em1, b ++ c, ha, ih.2 ⟨b, em2, c, hb, hc, rfl⟩, List.append_assoc _ _ _⟩

theorem addSegments_filterMap {cx : Ctx} {β} (f : Line → Option β) (g : Segment → List β)
    (hseg : ∀ em seg a em1, shouldEmit cx.o seg.cond = true → addSegment cx em seg = .ok (a, em1) → a.filterMap f = g seg)
    {segs : List Segment} {em : List Str} {ls : List Line} {em' : List Str} (h : addSegments cx em segs = .ok (ls, em')) :
    ls.filterMap f = (segs.filter fun s => shouldEmit cx.o s.cond).flatMap g := by
  refine addSegments_induction
    (P := fun _ segs ls _ => ls.filterMap f = (segs.filter fun s => shouldEmit cx.o s.cond).flatMap g) (fun _ => rfl) ?_ h
  intro em seg rest a em1 b em' ha _ ih
  rw [List.filterMap_append, ih, List.filter_cons]
  cases hs : shouldEmit cx.o seg.cond
  · rw [addSegment_excluded hs] at ha
    cases ha
    rfl
  · rw [if_pos rfl, List.flatMap_cons, hseg em seg a em1 hs ha]

/-- the script of a multi-segment document, ordinary or main script of partial mode, around the statements `ls` of
its segments. -/
def scriptOf (cx : Ctx) (vc : Bool) (ls : List Line) (emitted : List Str) : List Line :=
  versionComment vc ++ (beginSections cx ++ ls ++ (endSections cx emitted ++ topLevel cx.d cx.o))

set_option smartUnfolding false in
theorem addAllSegments_ok {cx : Ctx} (hm : cx.d.settings.singleSegmentMode = false) {body : List Line} :
    addAllSegments cx = .ok body ↔
      ∃ ls em, addSegments cx [] cx.d.segments = .ok (ls, em) ∧ body = beginSections cx ++ ls ++ endSections cx em := by
  unfold addAllSegments
  rw [hm, if_neg Bool.false_ne_true]
  exact bind_ok_eq_ok.trans ⟨fun ⟨r, h, e⟩ => ⟨r.1, r.2, h, e⟩, fun ⟨ls, em, h, e⟩ => ⟨(ls, em), h, e⟩⟩

set_option smartUnfolding false in
theorem generateNormal_ok {d : Document} {o : Opts} {vc : Bool} {esc : Opts → Str → Except ErrKind Str}
    (hm : d.settings.singleSegmentMode = false) {script : List Line} :
    generateNormal d o vc esc = .ok script ↔
      ∃ ls em, addSegments { d := d, o := o, esc := esc } [] d.segments = .ok (ls, em) ∧
        script = scriptOf { d := d, o := o, esc := esc } vc ls em := by
  refine bind_ok_eq_ok.trans ⟨?_, ?_⟩
  · rintro ⟨body, hb, rfl⟩
    obtain ⟨ls, em, hs, rfl⟩ := (addAllSegments_ok hm).1 hb
    exact ⟨ls, em, hs, by simp only [scriptOf, List.append_assoc]⟩
  · rintro ⟨ls, em, hs, rfl⟩
    exact ⟨_, (addAllSegments_ok hm).2 ⟨ls, em, hs, rfl⟩, by simp only [scriptOf, List.append_assoc]⟩

def blankIf (b : Bool) : List Line := if b then [.blank] else []

/-- the single-entry output sections of an allowlist. -/
def singleEntries (l : List Str) : List Line := l.map fun x => Line.singleEntry x c!"0"

def discardBlock (s : Settings) : List Line :=
  [.discardHdr, .blockOpen] ++ s.sectionsDenylist.map Line.discardPat
    ++ (if s.discardWildcardSection then [Line.discardPat c!"*"] else []) ++ [.blockClose]

theorem blankIf_cases (b : Bool) : blankIf b = [] ∨ blankIf b = [.blank] := by cases b <;> simp [blankIf]

theorem mem_blankIf {b : Bool} {l : Line} (h : l ∈ blankIf b) : l = .blank := by
  rcases blankIf_cases b with e | e <;> rw [e] at h
  · cases h
  · exact List.mem_singleton.1 h

theorem optEntries_eq (b : Bool) (l : List Str) :
    (if l.isEmpty then [] else (if b then [Line.blank] else []) ++ l.map (fun x => Line.singleEntry x c!"0"))
      = blankIf (b && !l.isEmpty) ++ singleEntries l := by
  cases l <;> cases b <;> rfl

/-- `end_sections`: class sizes, the two allowlists, the `/DISCARD/` block, `}` — each part behind one empty line
when something stands in front of it. -/
theorem endSections_eq (cx : Ctx) (emitted : List Str) :
    endSections cx emitted =
      C18.classSizes cx emitted
      ++ (blankIf (!(C18.classSizes cx emitted).isEmpty && !cx.d.settings.sectionsAllowlist.isEmpty)
          ++ singleEntries cx.d.settings.sectionsAllowlist)
      ++ (blankIf ((!(C18.classSizes cx emitted).isEmpty || !cx.d.settings.sectionsAllowlist.isEmpty)
              && !cx.d.settings.sectionsAllowlistExtra.isEmpty)
          ++ singleEntries cx.d.settings.sectionsAllowlistExtra)
      ++ (if cx.d.settings.discardWildcardSection || !cx.d.settings.sectionsDenylist.isEmpty then
            blankIf (!(C18.classSizes cx emitted).isEmpty || !cx.d.settings.sectionsAllowlist.isEmpty
              || !cx.d.settings.sectionsAllowlistExtra.isEmpty) ++ discardBlock cx.d.settings
          else [])
      ++ [.blockClose] := by
  unfold endSections
  simp only [optEntries_eq, discardBlock, List.append_assoc]
  rfl

/-- the statements `end_sections` can write. -/
inductive EndLine (sty : Style) : Line → Prop
  | size (n : Str) : EndLine sty (linkerSym (sty.classSize n) (.sub (sty.classEnd n) (sty.classStart n)))
  | blank : EndLine sty .blank
  | entry (x : Str) : EndLine sty (.singleEntry x c!"0")
  | discardHdr : EndLine sty .discardHdr
  | blockOpen : EndLine sty .blockOpen
  | pat (p : Str) : EndLine sty (.discardPat p)
  | blockClose : EndLine sty .blockClose

theorem endSections_lines (cx : Ctx) (emitted : List Str) : ∀ l ∈ endSections cx emitted, EndLine cx.d.settings.style l := by
  intro l hl
  rw [endSections_eq] at hl
  simp only [List.mem_append, List.mem_singleton] at hl
  rcases hl with (((hl | hl | hl) | hl | hl) | hl) | rfl
  · obtain ⟨n, _, rfl⟩ := List.mem_map.1 hl; exact .size n
  · exact mem_blankIf hl ▸ .blank
  · obtain ⟨x, _, rfl⟩ := List.mem_map.1 hl; exact .entry x
  · exact mem_blankIf hl ▸ .blank
  · obtain ⟨x, _, rfl⟩ := List.mem_map.1 hl; exact .entry x
  · split at hl
    · rcases List.mem_append.1 hl with hl | hl
      · exact mem_blankIf hl ▸ .blank
      · simp only [discardBlock, List.mem_append, List.mem_cons, List.mem_nil_iff, or_false, List.mem_map] at hl
        rcases hl with ((hl | ⟨p, _, rfl⟩) | hl) | rfl
        · rcases hl with rfl | rfl
          · exact .discardHdr
          · exact .blockOpen
        · exact .pat p
        · split at hl
          · rw [List.mem_singleton.1 hl]; exact .pat _
          · cases hl
        · exact .blockClose
    · cases hl
  · exact .blockClose

/-- the statements `add_whole_document` can write behind `SECTIONS`. -/
inductive TopLine : Line → Prop
  | blank : TopLine .blank
  | entry (e : Str) : TopLine (.entry e)
  | assign (n v : Str) (p h : Bool) : TopLine (.assign n (.sym v) p h false)
  | extern (n : Str) : TopLine (.extern n)
  | assert (c m : Str) : TopLine (.assertL c m)

theorem topLevel_lines (d : Document) (o : Opts) : ∀ l ∈ topLevel d o, TopLine l := by
  intro l hl
  unfold topLevel at hl
  simp only [List.mem_append] at hl
  rcases hl with ((hl | hl) | hl) | hl
  · split at hl
    · simp only [List.mem_cons, List.mem_nil_iff, or_false] at hl
      rcases hl with rfl | rfl
      · exact .blank
      · exact .entry _
    · cases hl
  · split at hl
    · cases hl
    · rcases List.mem_cons.1 hl with rfl | hl
      · exact .blank
      · obtain ⟨a, _, rfl⟩ := List.mem_map.1 hl; exact .assign _ _ _ _
  · split at hl
    · cases hl
    · rcases List.mem_cons.1 hl with rfl | hl
      · exact .blank
      · obtain ⟨x, hx, hlx⟩ := List.mem_flatten.1 hl
        obtain ⟨a, _, rfl⟩ := List.mem_map.1 hx
        simp only [List.mem_cons, List.mem_nil_iff, or_false] at hlx
        rcases hlx with rfl | rfl
        · exact .extern _
        · exact .assert _ _
  · split at hl
    · cases hl
    · rcases List.mem_cons.1 hl with rfl | hl
      · exact .blank
      · obtain ⟨a, _, rfl⟩ := List.mem_map.1 hl; exact .assert _ _

theorem TopLine.simple {l : Line} (h : TopLine l) : simple l = true := by
  cases h <;> rfl

theorem partialSegments_nil_ok {d : Document} {o : Opts} {vc : Bool} {folder : Str} {esc : Opts → Str → Except ErrKind Str}
    {em : List Str} {r : List Line × List Str × List (Str × List Line)} :
    partialSegments d o vc folder esc em [] = .ok r ↔ r = ([], em, []) := by
  simp [partialSegments, eq_comm]

theorem partialSegments_cons_excluded {d : Document} {o : Opts} {vc : Bool} {folder : Str} {esc : Opts → Str → Except ErrKind Str}
    {em : List Str} {seg : Segment} {rest : List Segment} (h : shouldEmit o seg.cond = false) :
    partialSegments d o vc folder esc em (seg :: rest) = partialSegments d o vc folder esc em rest := by
  rw [partialSegments]; simp [h]

theorem partialSegments_cons_ok {d : Document} {o : Opts} {vc : Bool} {folder : Str} {esc : Opts → Str → Except ErrKind Str}
    {em : List Str} {seg : Segment} {rest : List Segment} (h : shouldEmit o seg.cond = true)
    {ls : List Line} {em' : List Str} {ps : List (Str × List Line)} :
    partialSegments d o vc folder esc em (seg :: rest) = .ok (ls, em', ps) ↔
      ∃ sub a em1 b ps', addSingleSegment { d := d, o := o, emitKindSyms := false, emitSecSyms := false, esc := esc } seg = .ok sub ∧
        addSegment { d := d, o := o, refPartial := true, esc := esc } em (partialSegment folder seg) = .ok (a, em1) ∧
        partialSegments d o vc folder esc em1 rest = .ok (b, em', ps') ∧
        ls = a ++ b ∧ ps = (seg.name, versionComment vc ++ sub) :: ps' := by
  rw [partialSegments, h, if_neg (by decide)]
  constructor
  · cases addSingleSegment { d := d, o := o, emitKindSyms := false, emitSecSyms := false, esc := esc } seg with
    | error e => intro h; exact nomatch h
    | ok sub =>
      cases addSegment { d := d, o := o, refPartial := true, esc := esc } em (partialSegment folder seg) with
      | error e => intro h; exact nomatch h
      | ok r =>
        obtain ⟨a, em1⟩ := r
        dsimp only
        cases h2 : partialSegments d o vc folder esc em1 rest with
        | error e => intro h; exact nomatch h
        | ok r2 =>
          intro h
          obtain ⟨rfl, h'⟩ := Prod.mk.inj (Except.ok.inj h)
          obtain ⟨rfl, rfl⟩ := Prod.mk.inj h'
          exact ⟨sub, a, em1, r2.1, r2.2.2, rfl, rfl, h2, rfl, rfl⟩
  · intro h; obtain ⟨sub, a, em1, b, ps', hsub, ha, hb, e1, e2⟩ := h
    rw [hsub, ha]; dsimp only; rw [hb, e1, e2]

/-- the per-segment script of one emitted segment, with its name. -/
def partScript (d : Document) (o : Opts) (vc : Bool) (esc : Opts → Str → Except ErrKind Str) (s : Segment) : R (Str × List Line) :=
  match addSingleSegment { d := d, o := o, emitKindSyms := false, emitSecSyms := false, esc := esc } s with
  | .error e => .error e
  | .ok sub => .ok (s.name, versionComment vc ++ sub)

/-- the main part of `partialSegments` is `addSegments` over the emitted segments with the partial object as file
list; the per-segment scripts are `addSingleSegment` of the emitted segments. -/
theorem partialSegments_ok {d : Document} {o : Opts} {vc : Bool} {folder : Str} {esc : Opts → Str → Except ErrKind Str} :
    ∀ {segs : List Segment} {em : List Str} {ls : List Line} {em' : List Str} {ps : List (Str × List Line)},
      partialSegments d o vc folder esc em segs = .ok (ls, em', ps) →
      addSegments { d := d, o := o, refPartial := true, esc := esc } em ((segs.filter fun s => shouldEmit o s.cond).map (partialSegment folder)) = .ok (ls, em') ∧
      mapE (partScript d o vc esc) (segs.filter fun s => shouldEmit o s.cond) = .ok ps := by
  intro segs
  induction segs with
  | nil => intro em ls em' ps h; cases partialSegments_nil_ok.1 h; exact ⟨rfl, rfl⟩
  | cons seg rest ih =>
    intro em ls em' ps h
    cases hs : shouldEmit o seg.cond
    · rw [partialSegments_cons_excluded hs] at h
      simpa [List.filter_cons, hs] using ih h
    · obtain ⟨sub, a, em1, b, ps', hsub, ha, hrest, rfl, rfl⟩ := (partialSegments_cons_ok hs).1 h
      obtain ⟨h1, h2⟩ := ih hrest
      simp only [List.filter_cons, hs, if_true, List.map_cons]
      exact ⟨addSegments_cons_ok.2 ⟨a, em1, b, ha, h1, rfl⟩, by simp only [mapE, partScript, hsub, h2]⟩

set_option smartUnfolding false in
theorem generatePartial_ok {d : Document} {o : Opts} {vc : Bool} {esc : Opts → Str → Except ErrKind Str} {out : PartialOut} :
    generatePartial d o vc esc = .ok out ↔
      ∃ folder ls em ps, d.settings.partialBuildSegmentsFolder = some folder ∧
        partialSegments d o vc folder esc [] d.segments = .ok (ls, em, ps) ∧
        out = { main := scriptOf { d := d, o := o, refPartial := true, esc := esc } vc ls em, partials := ps } := by
  unfold generatePartial
  cases hf : d.settings.partialBuildSegmentsFolder with
  | none => exact ⟨nofun, fun ⟨_, _, _, _, h, _⟩ => nomatch h⟩
  | some folder =>
    refine bind_ok_eq_ok.trans ⟨?_, ?_⟩
    · rintro ⟨⟨ls, em, ps⟩, hp, rfl⟩
      exact ⟨folder, ls, em, ps, rfl, hp, by simp only [scriptOf, List.append_assoc]⟩
    · rintro ⟨_, ls, em, ps, hf', hp, rfl⟩
      cases hf'
      exact ⟨_, hp, by simp only [scriptOf, List.append_assoc]⟩

set_option smartUnfolding false in
theorem generate_main {d : Document} {o : Opts} {m : Mode} {vc : Bool} {esc : Opts → Str → Except ErrKind Str} {out : Outputs}
    (h : generate d o m vc esc = .ok out) :
    mainDeps d o vc out.lines esc = .ok out.deps ∧ out.symbols = linkerSymbols out.lines ∧
    out.header = headerText vc d.settings.symbolsHeaderType d.settings.symbolsHeaderAsArray out.symbols ∧
    (m = .normal → generateNormal d o vc esc = .ok out.lines) ∧
    (m = .partialLink → ∃ po, generatePartial d o vc esc = .ok po ∧ out.lines = po.main ∧ out.partialLines = po.partials) := by
  cases m with
  | normal =>
    obtain ⟨ls, hg, h⟩ := bind_eq_ok.1 h
    obtain ⟨deps, hd, h⟩ := bind_eq_ok.1 h
    rw [← Except.ok.inj h]
    exact ⟨hd, rfl, rfl, fun _ => hg, fun e => nomatch e⟩
  | partialLink =>
    obtain ⟨po, hg, h⟩ := bind_eq_ok.1 h
    obtain ⟨deps, hd, h⟩ := bind_eq_ok.1 h
    rw [← Except.ok.inj h]
    exact ⟨hd, rfl, rfl, (fun e => nomatch e), fun _ => ⟨po, hg, rfl, rfl⟩⟩

theorem mainDeps_ok {d : Document} {o : Opts} {vc : Bool} {ls : List Line} {esc : Opts → Str → Except ErrKind Str}
    {deps : Option Str} (h : mainDeps d o vc ls esc = .ok deps) :
    (∀ t, deps = some t → ∃ tgt, d.settings.targetPath = some tgt ∧ ∃ p, esc o tgt = .ok p ∧
        t = depsText vc (display p) (filesPaths ls)) ∧
    (deps = none → d.settings.targetPath = none) := by
  revert h
  unfold mainDeps optEscape
  cases htp : d.settings.targetPath with
  | none => intro h; rw [← Except.ok.inj h]; exact ⟨fun _ e => (nomatch e), fun _ => rfl⟩
  | some tgt =>
    dsimp only
    cases hesc : esc o tgt with
    | error e => intro h; exact nomatch h
    | ok p =>
      intro h; rw [← Except.ok.inj h]
      exact ⟨fun t e => ⟨tgt, rfl, p, hesc, (Option.some.inj e).symm⟩, fun e => nomatch e⟩
end W
end Slinky
