import Lean.Meta.Tactic.Simp.RegisterCommand

/-- the normal form of a text put together by `fmt` and `++`: `simp only [fmtNorm]` (Props/Render.lean). -/
register_simp_attr fmtNorm
