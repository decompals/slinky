/-
  C20 — the command line and the file system around the library (`Slinkyv/Cli.lean`, `Slinkyv/Files.lean`): a write
  replaces the content of its file and no other, the last value given for a custom option wins, the exit status, what
  `--omit-version-comment` removes, what the CLI adds to `fileRun`.
-/
import Slinkyv.Cli
namespace Slinky.C20
open Slinky

def Fs.get (fs : Fs) (q : Str) : Option Str := (fs.find? (fun e => e.1 = q)).map (·.2)

theorem find_filter_ne (fs : Fs) (p q : Str) (h : q ≠ p) :
    (fs.filter (fun e => e.1 ≠ p)).find? (fun e => e.1 = q) = fs.find? (fun e => e.1 = q) := by
  rw [List.find?_filter]
  congr 1; funext e
  by_cases hq : e.1 = q
  · subst hq; simp [h]
  · simp [hq]

theorem find_filter_self (fs : Fs) (p : Str) :
    (fs.filter (fun e => e.1 ≠ p)).find? (fun e => e.1 = p) = none := by
  rw [List.find?_filter, List.find?_eq_none]
  intro e _
  by_cases hp : e.1 = p <;> simp [hp]

/-- **create-or-truncate-and-write.** After writing `content` to `path`, that location holds
exactly `content` — whatever was there before, however long — and every other location is
unchanged. -/
theorem write_replaces (fs : Fs) (path content : Str) :
    Fs.get (fs.write path content) (normPath path) = some content ∧
    ∀ q, q ≠ normPath path → Fs.get (fs.write path content) q = Fs.get fs q := by
  unfold Fs.write Fs.get
  constructor
  · rw [List.find?_append, find_filter_self]
    simp [List.find?]
  · intro q hq
    rw [List.find?_append, find_filter_ne fs (normPath path) q hq]
    cases h : fs.find? (fun e => e.1 = q) with
    | some e => simp
    | none =>
      have : ¬ normPath path = q := fun hh => hq hh.symm
      simp [List.find?, this]

/-- **custom options**: in the map built from a list of pairs (`optsOfList`; `cliRun` gives it the pairs
`parseOptArgs` returns) the value of a key is that of the last pair that names it. -/
theorem options_last_wins (pairs : List (Str × Str)) (k : Str) :
    optGet (optsOfList pairs) k = (pairs.reverse.find? (fun e => e.1 = k)).map (·.2) := by
  unfold optGet optsOfList lookupLast
  generalize pairs.reverse = l
  induction l with
  | nil => rfl
  | cons a as ih =>
    obtain ⟨k', v⟩ := a
    unfold lookup
    by_cases h : k' = k <;> simp [h, ih]

/-- a piece without `=` makes the whole run fail before anything is written. -/
theorem bad_option_fails (doc : D Document) (a : CliArgs) (fs : Fs) (h : parseOptArgs a.customOptions = none) :
    (cliRun doc a fs).exit = .nonZero ∧ (cliRun doc a fs).fs = fs := by
  simp [cliRun, h]

/-- **exit status**: the run exits zero iff the document parses, the options parse and every
generation / export step succeeds. -/
theorem exit_zero_iff (doc : D Document) (a : CliArgs) (fs : Fs) :
    (cliRun doc a fs).exit = .zero ↔
      ∃ pairs d r, parseOptArgs a.customOptions = some pairs ∧ doc = .ok d ∧
        fileRun d (optsOfList pairs) (if a.partialLinking then .partialLink else .normal)
          (!a.omitVersionComment) a.output fs = .ok r := by
  constructor
  · intro h
    unfold cliRun at h
    split at h
    · nomatch h
    split at h
    · nomatch h
    split at h
    · nomatch h
    exact ⟨_, _, _, ‹_›, rfl, ‹_›⟩
  · rintro ⟨pairs, d, r, hp, rfl, hr⟩
    simp only [cliRun, hp, hr]

/-- **`--omit-version-comment` removes only the version comment** from the script … -/
theorem version_comment_script (d : Document) (o : Opts) :
    generateNormal d o true = (match generateNormal d o false with
      | .ok ls => .ok (versionComment true ++ ls)
      | .error e => .error e) := by
  unfold generateNormal
  cases addAllSegments { d := d, o := o, esc := escapePath } with
  | error e => rfl
  | ok ls => simp [versionComment]

/-- … from the dependency file and from the header. -/
theorem version_comment_side_files (t : Str) (ps : List Str) (ty : Str) (arr : Bool) (syms : List Str) :
    depsText true t ps = c!"# Generated by slinky 0.3.1\n\n" ++ depsText false t ps ∧
    headerText true ty arr syms = c!"/* Generated by slinky 0.3.1 */\n\n" ++ headerText false ty arr syms := by
  unfold depsText headerText
  simp only [List.append_assoc]
  exact ⟨rfl, rfl⟩

/-- what the CLI prints is what `fileRun` returns for standard output, followed by one extra line break; the files are
those `fileRun` leaves. -/
theorem stdout_is_script (d : Document) (a : CliArgs) (fs : Fs) (pairs : List (Str × Str)) (r : FileRun)
    (hp : parseOptArgs a.customOptions = some pairs)
    (hr : fileRun d (optsOfList pairs) (if a.partialLinking then .partialLink else .normal)
          (!a.omitVersionComment) a.output fs = .ok r) :
    (cliRun (.ok d) a fs).stdout = r.stdout.map (· ++ ['\n']) ∧ (cliRun (.ok d) a fs).fs = r.fs := by
  simp [cliRun, hp, hr]

end Slinky.C20
