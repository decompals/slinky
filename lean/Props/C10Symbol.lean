/-
  C10 in the image `Ld.link` returns: the members of a vram class with `fixed_symbol` — `class_member_main` of
  Props/C10Final.lean for a class whose prologue reads a symbol given to the linker with `--defsym` and never assigned by
  the script (`introGives_fixedSymbol`).
-/
import Props.C10Final
namespace Slinky.C10
open Slinky W Ld

/-- `final_class_fixed_symbol` for any writer context and any statements behind the segments. -/
theorem class_fixed_symbol_core (objs : List InSec) (cx : Ctx) (hsy : cx.emitSecSyms = true) (vc : Bool)
    (segs : List Segment) (ls : List Line) (emitted : List Str) (T : List Line)
    (hsegs : addSegments cx [] segs = .ok (ls, emitted))
    (hall : ∀ s ∈ segs, shouldEmit cx.o s.cond = true → s.allocSections ≠ [])
    (defsyms : List (Str × Nat))
    (pre post : List Segment) (seg : Segment) (hsplit : segs = pre ++ seg :: post)
    (hinc : shouldEmit cx.o seg.cond = true)
    (c : Str) (vcl : VramClass) (v : Nat)
    (hfv : seg.fixedVram = none) (hfs : seg.fixedSymbol = none) (hfol : seg.followsSegment = none) (hcl : seg.vramClass = some c)
    (hfind : findClass cx.d c = some vcl) (fs : Str) (hcn : vcl.fixedVram = none) (hcsym : vcl.fixedSymbol = some fs)
    (hds : lookupLast fs (defsyms.map fun kv => (kv.1, Val.num kv.2)) = some (.num v))
    (hfs0 : assignCount fs (versionComment vc ++ (beginSections cx ++ ls ++ T)) = 0)
    (hcnt : assignCount (cx.d.settings.style.classStart c) (versionComment vc ++ (beginSections cx ++ ls ++ T)) ≤ 1) :
    ∃ os ∈ (link objs defsyms (versionComment vc ++ (beginSections cx ++ ls ++ T))).secs, os.name = c!"." ++ seg.name ∧ os.noload = false ∧ os.addr = v ∧
      (link objs defsyms (versionComment vc ++ (beginSections cx ++ ls ++ T))).sym (cx.d.settings.style.classStart c) = some v :=
  class_member_main objs (MainScript.core cx hsy vc segs ls emitted T hsegs hall) defsyms pre post seg hsplit hinc c vcl v
    hfv hfs hfol hcl hfind [(fs, v)] (introGives_fixedSymbol objs _ c vcl v fs hcn hcsym)
    (List.forall_mem_singleton.2 ⟨hds, hfs0⟩) hcnt

/-- **C10 in the linked image, for the whole ordinary script: the members of a class with `fixed_symbol`.** An emitted
segment placed by its `vram_class` alone, the class having `fixed_symbol: fs`, `fs` being given to the linker as
`--defsym fs=v` and never assigned by the script, and the class start symbol being assigned once, has `.<segment>`
recorded at `v`, and the class start symbol is `v` there — first emitted member of the class or a later one. -/
theorem final_class_fixed_symbol (objs : List InSec) (d : Document) (o : Opts) (vc : Bool) (script : List Line)
    (hmulti : d.settings.singleSegmentMode = false)
    (h : generateNormal d o vc = .ok script)
    (hall : ∀ s ∈ d.segments, shouldEmit o s.cond = true → s.allocSections ≠ [])
    (defsyms : List (Str × Nat))
    (pre post : List Segment) (seg : Segment) (hsplit : d.segments = pre ++ seg :: post)
    (hinc : shouldEmit o seg.cond = true)
    (c : Str) (vcl : VramClass) (v : Nat)
    (hfv : seg.fixedVram = none) (hfs : seg.fixedSymbol = none) (hfol : seg.followsSegment = none) (hcl : seg.vramClass = some c)
    (hfind : findClass d c = some vcl) (fs : Str) (hcn : vcl.fixedVram = none) (hcsym : vcl.fixedSymbol = some fs)
    (hds : lookupLast fs (defsyms.map fun kv => (kv.1, Val.num kv.2)) = some (.num v))
    (hfs0 : assignCount fs script = 0)
    (hcnt : assignCount (d.settings.style.classStart c) script ≤ 1) :
    ∃ os ∈ (link objs defsyms script).secs, os.name = c!"." ++ seg.name ∧ os.noload = false ∧ os.addr = v ∧
      (link objs defsyms script).sym (d.settings.style.classStart c) = some v :=
  class_member_main objs (MainScript.normal d o vc script hmulti h hall) defsyms pre post seg hsplit hinc c vcl v
    hfv hfs hfol hcl hfind [(fs, v)] (introGives_fixedSymbol objs _ c vcl v fs hcn hcsym)
    (List.forall_mem_singleton.2 ⟨hds, hfs0⟩) hcnt

/-- `final_class_fixed_symbol` for the main script of partial mode. -/
theorem final_class_fixed_symbol_partial (objs : List InSec) (d : Document) (o : Opts) (vc : Bool) (out : PartialOut)
    (h : generatePartial d o vc = .ok out)
    (hall : ∀ s ∈ d.segments, shouldEmit o s.cond = true → s.allocSections ≠ [])
    (defsyms : List (Str × Nat)) (folder : Str) (hfolder : d.settings.partialBuildSegmentsFolder = some folder)
    (pre post : List Segment) (seg : Segment) (hsplit : C03.partialSegs d o folder = pre ++ seg :: post)
    (c : Str) (vcl : VramClass) (v : Nat)
    (hfv : seg.fixedVram = none) (hfs : seg.fixedSymbol = none) (hfol : seg.followsSegment = none) (hcl : seg.vramClass = some c)
    (hfind : findClass d c = some vcl) (fs : Str) (hcn : vcl.fixedVram = none) (hcsym : vcl.fixedSymbol = some fs)
    (hds : lookupLast fs (defsyms.map fun kv => (kv.1, Val.num kv.2)) = some (.num v))
    (hfs0 : assignCount fs out.main = 0)
    (hcnt : assignCount (d.settings.style.classStart c) out.main ≤ 1) :
    ∃ os ∈ (link objs defsyms out.main).secs, os.name = c!"." ++ seg.name ∧ os.noload = false ∧ os.addr = v ∧
      (link objs defsyms out.main).sym (d.settings.style.classStart c) = some v :=
  class_member_main objs (MainScript.partial d o vc out h hall folder hfolder) defsyms pre post seg hsplit
    (C03.partialSegs_split_emitted hsplit) c vcl v
    hfv hfs hfol hcl hfind [(fs, v)] (introGives_fixedSymbol objs _ c vcl v fs hcn hcsym)
    (List.forall_mem_singleton.2 ⟨hds, hfs0⟩) hcnt

/-- the hypotheses are met: the class `ovl` placed at the symbol `ovl_base`, given as 0x80300000. -/
def exDocCS : Document :=
  { exDocC with vramClasses := [{ name := c!"ovl", fixedSymbol := some c!"ovl_base" }] }

example : (match generateNormal exDocCS C04.exOpts false with
    | .ok script =>
      decide (assignCount c!"ovl_VRAM_CLASS_START" script = 1) && decide (assignCount c!"ovl_base" script = 0)
      && decide ((link C04.exObjs [(c!"ovl_base", 0x80300000)] script).sym c!"ovl_VRAM_CLASS_START" = some 0x80300000)
      && (link C04.exObjs [(c!"ovl_base", 0x80300000)] script).secs.any (fun os => os.name = c!".ovl_a" && os.addr = 0x80300000)
      && (link C04.exObjs [(c!"ovl_base", 0x80300000)] script).secs.any (fun os => os.name = c!".ovl_b" && os.addr = 0x80300000)
    | .error _ => false) = true := by decide +kernel

/-! ### the fold lemmas of Props/C10Final.lean for `fixed_symbol`; no proof uses them -/

/-- `class_start_step_gen` for a class with `fixed_symbol: fs`, a symbol that holds `v`. -/
theorem class_start_step_sym (objs : List InSec) (cx : Ctx) (c : Str) (vc : VramClass) (v : Nat)
    (hfind : findClass cx.d c = some vc) (fs : Str) (hfn : vc.fixedVram = none) (hfsym : vc.fixedSymbol = some fs)
    (em : List Str) (seg : Segment) (a : List Line) (em1 : List Str) (hadd : addSegment cx em seg = .ok (a, em1))
    (st : St) (ho : Outside st) (k : List Line) (hfsv : lookupLast fs st.syms = some (.num v))
    (hinv : c ∈ em → lookupLast (cx.d.settings.style.classStart c) st.syms = some (.num v))
    (hc1 : assignCount (cx.d.settings.style.classStart c) a ≤ 1)
    (hc0 : c ∈ em → assignCount (cx.d.settings.style.classStart c) a = 0) :
    (c ∈ em1 → lookupLast (cx.d.settings.style.classStart c) (execK objs st a k).syms = some (.num v)) ∧
    (c ∈ em1 → c ∉ em → 1 ≤ assignCount (cx.d.settings.style.classStart c) a) :=
  have h := class_start_step_gen objs cx c vc v hfind [(fs, v)] (introGives_fixedSymbol objs cx c vc v fs hfn hfsym) em seg a em1
    hadd st ho k (List.forall_mem_singleton.2 hfsv) hinv hc1 hc0
  ⟨h.1, h.2.1⟩

/-- `class_start_kept_gen` for a class with `fixed_symbol: fs`, a symbol that holds `v` and that these statements do not
assign; without the members. -/
theorem class_start_kept_sym (objs : List InSec) (cx : Ctx) (hsy : cx.emitSecSyms = true) (c : Str) (vc : VramClass) (v : Nat)
    (hfind : findClass cx.d c = some vc) (fs : Str) (hfn : vc.fixedVram = none) (hfsym : vc.fixedSymbol = some fs) :
    ∀ (segs : List Segment) (em : List Str) (ls : List Line) (em' : List Str)
      (_ : addSegments cx em segs = .ok (ls, em'))
      (_ : ∀ s ∈ segs, shouldEmit cx.o s.cond = true → s.allocSections ≠ [])
      (st : St) (_ : Outside st) (r : Nat) (_ : lookupLast Ld.romPos st.syms = some (.num r)) (k : List Line)
      (_ : c ∈ em → lookupLast (cx.d.settings.style.classStart c) st.syms = some (.num v))
      (_ : assignCount (cx.d.settings.style.classStart c) ls ≤ 1)
      (_ : c ∈ em → assignCount (cx.d.settings.style.classStart c) ls = 0)
      (_ : lookupLast fs st.syms = some (.num v)) (_ : assignCount fs ls = 0),
      ∃ (st' : St) (r' : Nat), st' = execK objs st ls k ∧ Outside st' ∧ lookupLast Ld.romPos st'.syms = some (.num r') ∧
        (c ∈ em' → lookupLast (cx.d.settings.style.classStart c) st'.syms = some (.num v)) ∧
        (c ∈ em' → c ∉ em → 1 ≤ assignCount (cx.d.settings.style.classStart c) ls) := by
  intro segs em ls em' h hall st ho r hr k hinv hc1 hc0 hfsv hfs0
  obtain ⟨hb, h1, h2, _⟩ := class_start_kept_gen objs cx hsy c vc v hfind [(fs, v)] (introGives_fixedSymbol objs cx c vc v fs hfn hfsym)
    h hall st ⟨ho, r, hr⟩ k hinv hc1 hc0 (List.forall_mem_singleton.2 ⟨hfsv, hfs0⟩)
  obtain ⟨r', hr'⟩ := hb.rom
  exact ⟨_, r', rfl, hb.out, hr', h1, h2⟩

end Slinky.C10
