/-
  Facts about the linker semantics `Slinkyv.Ld` that hold for every object table and every state: what any statement
  can do to the tables and the mode of the link (`step_frame`), what therefore holds across any run (`execK_rel`:
  symbols nobody assigns keep their value, output sections are only added, no symbol is removed), and what the
  statements slinky writes inside an output section do to the location counter, the symbols and the placed input
  sections (`step_inner`, `run_inner`, `bracket_run`).
-/
import Props.Writer
namespace Slinky
namespace Ld

theorem le_alignUp (x a : Nat) : x ≤ Ld.alignUp x a := by
  unfold Ld.alignUp
  split
  · exact Nat.le_refl x
  · rename_i h
    have ha : 0 < a := by omega
    have := Nat.div_add_mod (x + a - 1) a
    have hm := Nat.mod_lt (x + a - 1) ha
    rw [Nat.mul_comm] at this
    omega

theorem alignUp_dvd' (x a : Nat) (ha : 1 ≤ a) : a ∣ Ld.alignUp x a := by
  unfold Ld.alignUp
  split
  · rename_i h
    have : a = 1 := by omega
    subst this
    exact Nat.one_dvd x
  · exact Nat.dvd_mul_left a _

theorem alignUp_eq (x a : Nat) : Ld.alignUp x a = C04.alignUp x a := rfl

theorem exec_eq_execK (objs : List InSec) (l : List Line) : ∀ st, exec objs st l = execK objs st l [] := by
  induction l with
  | nil => intro st; rfl
  | cons x r ih => intro st; simp [exec, execK, ih]

theorem execK_append (objs : List InSec) (a b k : List Line) :
    ∀ st, execK objs st (a ++ b) k = execK objs (execK objs st a (b ++ k)) b k := by
  induction a with
  | nil => intro st; rfl
  | cons x r ih => intro st; simp [execK, ih, List.append_assoc]

/-- the placements lie, in this order and without overlap, between `lo` and `hi`, all in `out`. -/
def chainOk (out : Str) : Nat → List Placed → Nat → Prop
  | lo, [], hi => lo ≤ hi
  | lo, p :: ps, hi => lo ≤ p.addr ∧ p.out = out ∧ chainOk out (p.addr + p.inp.size) ps hi

theorem chainOk_le {out : Str} {l : List Placed} {lo hi : Nat} (h : chainOk out lo l hi) : lo ≤ hi := by
  induction l generalizing lo with
  | nil => exact h
  | cons p ps ih =>
    have := ih h.2.2
    have := h.1
    omega

theorem chainOk_weaken {out : Str} {l : List Placed} {lo lo' hi : Nat} (hl : lo' ≤ lo) (h : chainOk out lo l hi) :
    chainOk out lo' l hi := by
  cases l with
  | nil => exact Nat.le_trans hl h
  | cons p ps => exact ⟨Nat.le_trans hl h.1, h.2.1, h.2.2⟩

theorem chainOk_append {out : Str} {a b : List Placed} {lo mid hi : Nat} (ha : chainOk out lo a mid)
    (hb : chainOk out mid b hi) : chainOk out lo (a ++ b) hi := by
  induction a generalizing lo with
  | nil => exact chainOk_weaken ha hb
  | cons p ps ih => exact ⟨ha.1, ha.2.1, ih ha.2.2⟩

theorem chainOk_extend {out : Str} {l : List Placed} {lo hi hi' : Nat} (hh : hi ≤ hi') (h : chainOk out lo l hi) :
    chainOk out lo l hi' := by
  induction l generalizing lo with
  | nil => exact Nat.le_trans h hh
  | cons p ps ih => exact ⟨h.1, h.2.1, ih h.2.2⟩

theorem chainOk_mem (out : Str) : ∀ (l : List Placed) (lo hi : Nat), chainOk out lo l hi →
    ∀ p ∈ l, lo ≤ p.addr ∧ p.addr + p.inp.size ≤ hi ∧ p.out = out := by
  intro l
  induction l with
  | nil => intro lo hi _ p hp; cases hp
  | cons q qs ih =>
    intro lo hi h p hp
    rcases List.mem_cons.1 hp with rfl | hp
    · exact ⟨h.1, chainOk_le h.2.2, h.2.1⟩
    · have := ih _ _ h.2.2 p hp
      exact ⟨by have := h.1; omega, this.2.1, this.2.2⟩

theorem chainOk_sorted (out : Str) : ∀ (l : List Placed) (lo hi : Nat), chainOk out lo l hi →
    l.Pairwise (fun p q => p.addr + p.inp.size ≤ q.addr) := by
  intro l
  induction l with
  | nil => intro lo hi _; exact List.Pairwise.nil
  | cons q qs ih =>
    intro lo hi h
    refine List.Pairwise.cons ?_ (ih _ _ h.2.2)
    intro r hr
    exact (chainOk_mem out qs _ _ h.2.2 r hr).1

/-- every placement sits at a multiple of the alignment in force for it: the section's `SUBALIGN` when it has one,
the input section's own alignment otherwise. -/
def alignedAll (sub : Option Nat) (l : List Placed) : Prop :=
  ∀ p ∈ l, 1 ≤ effAlign sub p.inp → effAlign sub p.inp ∣ p.addr

theorem alignedAll_nil (sub : Option Nat) : alignedAll sub [] := fun _ h => by cases h

theorem alignedAll_append {sub : Option Nat} {a b : List Placed} (ha : alignedAll sub a) (hb : alignedAll sub b) :
    alignedAll sub (a ++ b) := by
  intro p hp
  rcases List.mem_append.1 hp with h | h
  · exact ha p h
  · exact hb p h

/-- the location counter is inside the output section `c`. -/
structure Inside (c : Cur) (st : St) : Prop where
  cur : st.cur = some c
  le : c.addr ≤ st.dot
  nd : st.inDiscard = false

/-- what a run of statements inside an output section does: the section stays open, the location counter does not go
back, no output section is closed, and what was placed forms a chain between the old and the new location counter. -/
structure Adv (c : Cur) (st st' : St) : Prop where
  inside : Inside c st'
  mono : st.dot ≤ st'.dot
  secs : st'.secs = st.secs
  placed : ∃ new, st'.placed = st.placed ++ new ∧ chainOk c.name st.dot new st'.dot ∧ alignedAll c.subalign new

theorem Adv.refl (c : Cur) (st : St) (h : Inside c st) : Adv c st st :=
  ⟨h, Nat.le_refl _, rfl, [], by simp, Nat.le_refl _, alignedAll_nil _⟩

theorem Adv.moveDot {c : Cur} {st : St} (h : Inside c st) {d : Nat} (hd : st.dot ≤ d) : Adv c st { st with dot := d } :=
  ⟨⟨h.cur, Nat.le_trans h.le hd, h.nd⟩, hd, rfl, [], (List.append_nil _).symm, hd, alignedAll_nil _⟩

theorem Adv.setSym {c : Cur} {st : St} (h : Inside c st) (s : Str) (v : Val) : Adv c st (setSym st s v) :=
  ⟨⟨h.cur, h.le, h.nd⟩, Nat.le_refl _, rfl, [], (List.append_nil _).symm, Nat.le_refl _, alignedAll_nil _⟩

theorem Adv.trans {c : Cur} {a b d : St} (h₁ : Adv c a b) (h₂ : Adv c b d) : Adv c a d := by
  obtain ⟨n₁, hp₁, hc₁, ha₁⟩ := h₁.placed
  obtain ⟨n₂, hp₂, hc₂, ha₂⟩ := h₂.placed
  exact ⟨h₂.inside, Nat.le_trans h₁.mono h₂.mono, by rw [h₂.secs, h₁.secs],
    n₁ ++ n₂, by rw [hp₂, hp₁, List.append_assoc], chainOk_append hc₁ hc₂, alignedAll_append ha₁ ha₂⟩

theorem placeAll_spec (out : Str) (sub : Option Nat) : ∀ (l : List InSec) (st : St),
    let st' := placeAll out sub st l
    st'.cur = st.cur ∧ st'.inDiscard = st.inDiscard ∧ st'.secs = st.secs ∧ st'.syms = st.syms ∧ st'.emptied = st.emptied ∧
    st'.discarded = st.discarded ∧
    ∃ new, st'.placed = st.placed ++ new ∧ chainOk out st.dot new st'.dot ∧ new.map (·.inp) = l ∧ alignedAll sub new := by
  intro l
  induction l with
  | nil => intro st; exact ⟨rfl, rfl, rfl, rfl, rfl, rfl, [], by simp [placeAll], Nat.le_refl _, rfl, alignedAll_nil _⟩
  | cons i rest ih =>
    intro st
    simp only [placeAll]
    obtain ⟨h1, h2, h3, h4, h5, h6, new, hp, hc, hm, hal⟩ := ih { st with
        dot := Ld.alignUp st.dot (effAlign sub i) + i.size,
        placed := st.placed ++ [(⟨i, Ld.alignUp st.dot (effAlign sub i), out⟩ : Placed)] }
    refine ⟨h1, h2, h3, h4, h5, h6, ⟨i, Ld.alignUp st.dot (effAlign sub i), out⟩ :: new, ?_, ?_, ?_, ?_⟩
    · rw [hp]; simp
    · exact ⟨le_alignUp _ _, rfl, hc⟩
    · simp [hm]
    · intro p hp'
      rcases List.mem_cons.1 hp' with rfl | hp'
      · intro h1'; exact alignUp_dvd' _ _ h1'
      · exact hal p hp'

theorem placeAll_syms (out : Str) (sub : Option Nat) : ∀ (l : List InSec) (st : St), (placeAll out sub st l).syms = st.syms :=
  fun l st => (placeAll_spec out sub l st).2.2.2.1

theorem placeAll_secs (out : Str) (sub : Option Nat) : ∀ (l : List InSec) (st : St), (placeAll out sub st l).secs = st.secs :=
  fun l st => (placeAll_spec out sub l st).2.2.1

theorem placeAll_cur (out : Str) (sub : Option Nat) : ∀ (l : List InSec) (st : St), (placeAll out sub st l).cur = st.cur :=
  fun l st => (placeAll_spec out sub l st).1

/-- the symbol a statement assigns (the location counter is not a symbol). -/
def symOf : Line → Option Str
  | .assign s _ _ _ _ => if s = c!"." then none else some s
  | .addAssign s _ => if s = c!"." then none else some s
  | _ => none

def romPos : Str := c!"__romPos"

instance : W.IsName .romPos romPos := ⟨.splat, [], rfl⟩

theorem step_assign_sym (objs : List InSec) {st : St} {s : Str} (hs : s ≠ c!".") (hd : st.inDiscard = false)
    (e : Expr) (p h lk : Bool) (r : List Line) :
    step objs st (.assign s e p h lk) r = { st with syms := st.syms ++ [(s, eval st e)] } := by
  simp [step, hd, hs, setSym]

def isInput : Line → Bool
  | .input _ _ _ _ _ => true
  | _ => false

theorem lookupLast_snoc {β} (n s : Str) (v : β) (l : List (Str × β)) :
    lookupLast n (l ++ [(s, v)]) = if s = n then some v else lookupLast n l := by
  simp [lookupLast, lookup]

/-- what one statement `l` can do to the tables and the mode of the link, whatever the state `st` it finds (`t` is the
state it leaves): the symbol table gains at most one entry, for the symbol the statement assigns; output sections,
placements and discards are only added at the end, and only by the statements that are there for it; only a header
opens an output section, only `}` closes one; only `/DISCARD/` enters the discard block, only `}` leaves it. -/
structure StepFrame (l : Line) (st t : St) : Prop where
  syms : t.syms = st.syms ∨ ∃ s v, symOf l = some s ∧ t.syms = st.syms ++ [(s, v)]
  secs : ∃ x, t.secs = st.secs ++ x ∧ (x = [] ∨ l = .blockClose ∨ ∃ sec addr, l = .singleEntry sec addr)
  placed : ∃ x, t.placed = st.placed ++ x ∧ (x = [] ∨ isInput l = true ∨ ∃ sec addr, l = .singleEntry sec addr)
  discarded : ∃ x, t.discarded = st.discarded ++ x ∧ (x = [] ∨ ∃ pat, l = .discardPat pat)
  cur : t.cur = st.cur ∨ ((∃ n nl a lm sub, l = .outHdr n nl a lm sub) ∧ t.cur.isSome = true) ∨ (l = .blockClose ∧ t.cur = none)
  inDiscard : t.inDiscard = st.inDiscard ∨ (l = .discardHdr ∧ t.inDiscard = true) ∨ (l = .blockClose ∧ t.inDiscard = false)

theorem extends_nil {α} {a b : List α} {P : Prop} (h : b = a) : ∃ x, b = a ++ x ∧ (x = [] ∨ P) :=
  ⟨[], by rw [h, List.append_nil], .inl rfl⟩

theorem StepFrame.same {l : Line} {st t : St} (h1 : t.syms = st.syms) (h2 : t.secs = st.secs) (h3 : t.placed = st.placed)
    (h4 : t.discarded = st.discarded) (h5 : t.cur = st.cur) (h6 : t.inDiscard = st.inDiscard) : StepFrame l st t :=
  ⟨.inl h1, extends_nil h2, extends_nil h3, extends_nil h4, .inl h5, .inl h6⟩

theorem step_frame (objs : List InSec) (st : St) (l : Line) (r : List Line) : StepFrame l st (step objs st l r) := by
  cases l with
  | assign s e p hd lk =>
    simp only [step]
    split
    · exact .same rfl rfl rfl rfl rfl rfl
    · split
      · split <;> exact .same rfl rfl rfl rfl rfl rfl
      · rename_i hne
        exact ⟨.inr ⟨s, _, if_neg hne, rfl⟩, extends_nil rfl, extends_nil rfl, extends_nil rfl, .inl rfl, .inl rfl⟩
  | addAssign s e =>
    simp only [step]
    split
    · exact .same rfl rfl rfl rfl rfl rfl
    · split
      · split <;> exact .same rfl rfl rfl rfl rfl rfl
      · rename_i hne
        split <;> exact ⟨.inr ⟨s, _, if_neg hne, rfl⟩, extends_nil rfl, extends_nil rfl, extends_nil rfl, .inl rfl, .inl rfl⟩
  | outHdr n nl a lm sub =>
    exact ⟨.inl rfl, extends_nil rfl, extends_nil rfl, extends_nil rfl, .inr (.inl ⟨⟨_, _, _, _, _, rfl⟩, rfl⟩), .inl rfl⟩
  | input k p m s w =>
    simp only [step]
    split
    · rename_i c _
      obtain ⟨h1, h2, h3, h4, _, h6, new, hp, _⟩ :=
        placeAll_spec c.name c.subalign (objs.filter fun i => selects p m s w i && isFree st i) st
      exact ⟨.inl h4, extends_nil h3, ⟨new, hp, .inr (.inl rfl)⟩, extends_nil h6, .inl h1, .inl h2⟩
    · exact .same rfl rfl rfl rfl rfl rfl
  | singleEntry sec addr =>
    simp only [step]
    obtain ⟨h1, h2, h3, h4, _, h6, new, hp, _⟩ := placeAll_spec sec none (objs.filter fun i => i.sec = sec && isFree st i)
      { st with dot := (operand st addr).getD st.dot }
    exact ⟨.inl h4, ⟨_, by rw [h3], .inr (.inr ⟨_, _, rfl⟩)⟩, ⟨new, hp, .inr (.inr ⟨_, _, rfl⟩)⟩, extends_nil h6, .inl h1, .inl h2⟩
  | discardHdr =>
    exact ⟨.inl rfl, extends_nil rfl, extends_nil rfl, extends_nil rfl, .inl rfl, .inr (.inl ⟨rfl, rfl⟩)⟩
  | discardPat pat =>
    simp only [step]
    split
    · exact ⟨.inl rfl, extends_nil rfl, extends_nil rfl, ⟨_, rfl, .inr ⟨_, rfl⟩⟩, .inl rfl, .inl rfl⟩
    · exact .same rfl rfl rfl rfl rfl rfl
  | blockClose =>
    simp only [step]
    split
    · split
      · exact ⟨.inl rfl, extends_nil rfl, extends_nil rfl, extends_nil rfl, .inr (.inr ⟨rfl, rfl⟩), .inl rfl⟩
      · exact ⟨.inl rfl, ⟨_, rfl, .inr (.inl rfl)⟩, extends_nil rfl, extends_nil rfl, .inr (.inr ⟨rfl, rfl⟩), .inl rfl⟩
    · exact ⟨.inl rfl, extends_nil rfl, extends_nil rfl, extends_nil rfl, .inl rfl, .inr (.inr ⟨rfl, rfl⟩)⟩
  | _ => exact .same rfl rfl rfl rfl rfl rfl

/-- the one induction over runs: a reflexive and transitive relation between link states that holds across every
single statement of the kind `P` holds across a run of such statements, whatever follows (`k`). -/
theorem execK_rel (objs : List InSec) {R : St → St → Prop} {P : Line → Prop}
    (refl : ∀ s, R s s) (trans : ∀ {a b c}, R a b → R b c → R a c)
    (hstep : ∀ st l r, P l → R st (step objs st l r)) :
    ∀ (ls : List Line) (st : St) (k : List Line), (∀ l ∈ ls, P l) → R st (execK objs st ls k) := by
  intro ls
  induction ls with
  | nil => intro st _ _; exact refl st
  | cons l rest ih =>
    intro st k h
    exact trans (hstep st l (rest ++ k) (h l List.mem_cons_self)) (ih _ k fun x hx => h x (List.mem_cons_of_mem _ hx))

theorem execK_noinput (objs : List InSec) (ls : List Line) (st : St) (k : List Line)
    (h : ∀ l ∈ ls, isInput l = false ∧ ∀ sec addr, l ≠ .singleEntry sec addr) : (execK objs st ls k).placed = st.placed :=
  execK_rel objs (R := fun a b => b.placed = a.placed) (fun _ => rfl) (fun h1 h2 => h2.trans h1)
    (fun st l r hl => by
      obtain ⟨x, hx, rfl | hi | ⟨sec, addr, hs⟩⟩ := (step_frame objs st l r).placed
      · rw [hx, List.append_nil]
      · rw [hl.1] at hi; cases hi
      · exact absurd hs (hl.2 sec addr)) ls st k h

theorem execK_inDiscard (objs : List InSec) (ls : List Line) (st : St) (k : List Line)
    (h : ∀ l ∈ ls, l ≠ .discardHdr ∧ l ≠ .blockClose) : (execK objs st ls k).inDiscard = st.inDiscard :=
  execK_rel objs (R := fun a b => b.inDiscard = a.inDiscard) (fun _ => rfl) (fun h1 h2 => h2.trans h1)
    (fun st l r hl => by
      rcases (step_frame objs st l r).inDiscard with e | ⟨e, _⟩ | ⟨e, _⟩
      · exact e
      · exact absurd e hl.1
      · exact absurd e hl.2) ls st k h

def assignCount (n : Str) (ls : List Line) : Nat := ls.countP fun l => decide (symOf l = some n)

theorem assignCount_append (n : Str) (a b : List Line) : assignCount n (a ++ b) = assignCount n a + assignCount n b := by
  simp [assignCount, List.countP_append]

theorem assignCount_nil (n : Str) : assignCount n [] = 0 := rfl

theorem assignCount_cons (n : Str) (l : Line) (r : List Line) :
    assignCount n (l :: r) = assignCount n r + (if symOf l = some n then 1 else 0) := by
  simp [assignCount, List.countP_cons]

theorem assignCount_pos {n : Str} {ls : List Line} {l : Line} (hl : l ∈ ls) (e : symOf l = some n) : 1 ≤ assignCount n ls := by
  unfold assignCount
  exact List.countP_pos_iff.2 ⟨l, hl, by simpa using e⟩

theorem assignCount_zero {n : Str} {ls : List Line} (h : assignCount n ls = 0) : ∀ l ∈ ls, symOf l ≠ some n := by
  intro l hl e
  have := assignCount_pos hl e
  omega

/-- a statement that does not assign `n` does not change `n`, wherever the link is (inside or outside an output
section, inside the discard block). -/
theorem step_keeps (objs : List InSec) (st : St) (l : Line) (r : List Line) (n : Str) (h : symOf l ≠ some n) :
    lookupLast n (step objs st l r).syms = lookupLast n st.syms := by
  rcases (step_frame objs st l r).syms with e | ⟨s, v, hs, e⟩
  · rw [e]
  · rw [e, lookupLast_snoc, if_neg (fun e' => h (by rw [hs, e']))]

theorem execK_keeps (objs : List InSec) (n : Str) : ∀ (ls : List Line) (st : St) (k : List Line),
    (∀ l ∈ ls, symOf l ≠ some n) → lookupLast n (execK objs st ls k).syms = lookupLast n st.syms :=
  execK_rel objs (R := fun a b => lookupLast n b.syms = lookupLast n a.syms) (fun _ => rfl) (fun h1 h2 => h2.trans h1)
    (fun st l r => step_keeps objs st l r n)

theorem execK_keeps_count (objs : List InSec) (n : Str) (ls : List Line) (st : St) (k : List Line)
    (h : assignCount n ls = 0) : lookupLast n (execK objs st ls k).syms = lookupLast n st.syms :=
  execK_keeps objs n ls st k (assignCount_zero h)

theorem _root_.Slinky.C03.execK_none (objs : List InSec) (n : Str) (ls : List Line) (st : St) (k : List Line)
    (h0 : lookupLast n st.syms = none) (hc : assignCount n ls = 0) : lookupLast n (execK objs st ls k).syms = none := by
  rw [execK_keeps_count objs n ls st k hc]; exact h0

theorem execK_secs (objs : List InSec) : ∀ (ls : List Line) (st : St) (k : List Line),
    ∃ extra, (execK objs st ls k).secs = st.secs ++ extra :=
  fun ls st k => execK_rel objs (P := fun _ => True) (R := fun a b => ∃ x, b.secs = a.secs ++ x)
    (fun _ => ⟨[], (List.append_nil _).symm⟩) (fun ⟨x, hx⟩ ⟨y, hy⟩ => ⟨x ++ y, by rw [hy, hx, List.append_assoc]⟩)
    (fun st l r _ => let ⟨x, hx, _⟩ := (step_frame objs st l r).secs; ⟨x, hx⟩) ls st k (fun _ _ => trivial)

def assigned (ls : List Line) : List Str := ls.filterMap symOf

@[simp] theorem assigned_nil : assigned [] = [] := rfl

@[simp] theorem assigned_append (a b : List Line) : assigned (a ++ b) = assigned a ++ assigned b := List.filterMap_append

theorem assigned_cons (l : Line) (r : List Line) : assigned (l :: r) = (symOf l).toList ++ assigned r := by
  unfold assigned; rw [List.filterMap_cons]; cases symOf l <;> rfl

theorem not_mem_assigned {n : Str} {ls : List Line} : n ∉ assigned ls ↔ ∀ l ∈ ls, symOf l ≠ some n := by
  simp only [assigned, List.mem_filterMap, not_exists, not_and, ne_eq]

theorem assignCount_pos_iff {n : Str} {ls : List Line} : 1 ≤ assignCount n ls ↔ n ∈ assigned ls := by
  show 0 < _ ↔ _
  simp only [assignCount, assigned, List.countP_pos_iff, List.mem_filterMap, decide_eq_true_eq]

theorem not_mem_assigned_of_count {n : Str} {ls : List Line} (h : assignCount n ls = 0) : n ∉ assigned ls :=
  not_mem_assigned.2 (assignCount_zero h)

theorem execK_keeps_assigned (objs : List InSec) {n : Str} {ls : List Line} (h : n ∉ assigned ls) (st : St) (k : List Line) :
    lookupLast n (execK objs st ls k).syms = lookupLast n st.syms :=
  execK_keeps objs n ls st k (not_mem_assigned.1 h)

theorem symOf_assign {f : W.Fam} {s : Str} [W.IsName f s] (e : Expr) (p h lk : Bool) : symOf (.assign s e p h lk) = some s :=
  if_neg W.ne_dot

theorem symOf_linkerSym {f : W.Fam} {s : Str} [W.IsName f s] (e : Expr) : symOf (linkerSym s e) = some s := if_neg W.ne_dot

theorem symOf_maxSelf {f : W.Fam} {s : Str} [W.IsName f s] (t : Str) : symOf (maxSelf s t) = some s := if_neg W.ne_dot

theorem symOf_blank : symOf .blank = none := rfl

theorem lookup_assign_cons (objs : List InSec) (st : St) (s : Str) (e : Expr) (p h lk : Bool) (B k : List Line)
    (hs : s ≠ c!".") (hd : st.inDiscard = false) (hB : s ∉ assigned B) :
    lookupLast s (execK objs st (.assign s e p h lk :: B) k).syms = some (eval st e) := by
  simp only [execK]
  rw [execK_keeps_assigned objs hB, step_assign_sym objs hs hd, lookupLast_snoc, if_pos rfl]

theorem lookupLast_setSym (st : St) (n s : Str) (v : Val) :
    lookupLast n (setSym st s v).syms = if s = n then some v else lookupLast n st.syms := lookupLast_snoc n s v st.syms

theorem execK_sym (objs : List InSec) {st : St} (hd : st.inDiscard = false) {s : Str} (hs : s ≠ c!".") (e : Expr) (p h lk : Bool)
    (r k : List Line) : execK objs st (.assign s e p h lk :: r) k = execK objs (setSym st s (eval st e)) r k := by
  simp only [execK]; rw [step_assign_sym objs hs hd]; rfl

theorem execK_blank (objs : List InSec) (st : St) (r k : List Line) : execK objs st (.blank :: r) k = execK objs st r k := rfl

theorem step_inner_alignDot (objs : List InSec) {c : Cur} {st : St} (hin : Inside c st) (a : Nat) (r : List Line) :
    step objs st (alignSymbol c!"." a) r = { st with dot := c.addr + Ld.alignUp (st.dot - c.addr) a } := by
  simp [alignSymbol, step, hin.nd, eval, base, relDot, hin.cur]

theorem step_inner (objs : List InSec) (sty : Style) (wild : Bool) (l : Line) (hl : W.InnerLine sty wild l)
    (c : Cur) (st : St) (hin : Inside c st) (r : List Line) :
    Adv c st (step objs st l r) := by
  cases hl with
  | body hb =>
    cases hb with
    | input k p m s =>
      simp only [step, hin.cur]
      obtain ⟨h1, h2, h3, _, _, _, new, hp, hc, _, hal⟩ :=
        placeAll_spec c.name c.subalign (objs.filter fun i => selects p m s wild i && isFree st i) st
      exact ⟨⟨by rw [h1, hin.cur], Nat.le_trans hin.le (chainOk_le hc), by rw [h2, hin.nd]⟩,
        chainOk_le hc, h3, new, hp, hc, hal⟩
    | pad n =>
      have hs : step objs st (.addAssign c!"." (.hex n)) r = { st with dot := st.dot + n } := by
        simp [step, hin.nd, eval]
      rw [hs]
      exact .moveDot hin (Nat.le_add_right _ _)
    | offset nm =>
      rw [linkerSym, step_assign_sym objs W.ne_dot hin.nd]
      exact .setSym hin _ _
  | blank => exact Adv.refl c st hin
  | alignDot a =>
    rw [step_inner_alignDot objs hin]
    have h := le_alignUp (st.dot - c.addr) a
    have hle := hin.le
    exact .moveDot hin (by omega)
  | gp off p h =>
    rw [step_assign_sym objs W.ne_dot hin.nd]
    exact .setSym hin _ _
  | symDot s hs =>
    rw [linkerSym, step_assign_sym objs (W.endsOk_ne_dot _ hs) hin.nd]
    exact .setSym hin _ _
  | symSize s a b hs =>
    rw [linkerSym, step_assign_sym objs (W.endsOk_ne_dot _ hs) hin.nd]
    exact .setSym hin _ _

theorem run_inner (objs : List InSec) (sty : Style) (wild : Bool) (c : Cur) :
    ∀ (ls : List Line) (_ : ∀ l ∈ ls, W.InnerLine sty wild l) (st : St) (_ : Inside c st) (k : List Line),
      Adv c st (execK objs st ls k) := by
  intro ls hall st hin k
  exact execK_rel objs (R := fun a b => Inside c a → Adv c a b) (fun s h => Adv.refl c s h)
    (fun h1 h2 h => (h1 h).trans (h2 (h1 h).inside)) (fun st l r hl h => step_inner objs sty wild l hl c st h r)
    ls st k hall hin

theorem run_inner_keeps (objs : List InSec) (sty : Style) (wild : Bool) (c : Cur) (n : Str) :
    ∀ (ls : List Line) (_ : ∀ l ∈ ls, W.InnerLine sty wild l) (_ : ∀ l ∈ ls, symOf l ≠ some n)
      (st : St) (_ : Inside c st) (k : List Line),
      lookupLast n (execK objs st ls k).syms = lookupLast n st.syms :=
  fun ls _ hno st _ k => execK_keeps objs n ls st k hno

theorem inner_ne {sty : Style} {wild : Bool} {l : Line} (h : W.InnerLine sty wild l) :
    l ≠ .blockClose ∧ ∀ sec addr, l ≠ .singleEntry sec addr := by
  cases h with
  | body hb => cases hb <;> exact ⟨fun h => (nomatch h), fun _ _ h => (nomatch h)⟩
  | _ => exact ⟨fun h => (nomatch h), fun _ _ h => (nomatch h)⟩

theorem run_inner_noinput (objs : List InSec) {sty : Style} {wild : Bool} {ls : List Line}
    (hall : ∀ l ∈ ls, W.InnerLine sty wild l) (hno : ∀ l ∈ ls, isInput l = false) (st : St) (k : List Line) :
    (execK objs st ls k).placed = st.placed :=
  execK_noinput objs ls st k fun l hl => ⟨hno l hl, (inner_ne (hall l hl)).2⟩

theorem operand_num (st : St) (n : Str) (v : Nat) (hn : n ≠ c!".") (h : lookupLast n st.syms = some (.num v)) :
    operand st n = some v := by
  simp [operand, hn, h, resolve]

/-- a bracketed run `P; S = .; B; Q; E = .; Z = ABSOLUTE(E - S)`: `S` holds the location counter in front of `B`, `E`
the one behind `Q`, `S ≤ E`, `Z` is their difference modulo `M32`, and everything placed lies, in order and without
overlap, between `S` and `E`. -/
theorem bracket_run (objs : List InSec) (sty : Style) (wild : Bool) (c : Cur) (P B Q : List Line) (S E Z : Str)
    (hP : ∀ l ∈ P, W.InnerLine sty wild l) (hPn : ∀ l ∈ P, isInput l = false)
    (hB : ∀ l ∈ B, W.InnerLine sty wild l) (hBs : ∀ l ∈ B, symOf l ≠ some S)
    (hQ : ∀ l ∈ Q, W.InnerLine sty wild l) (hQn : ∀ l ∈ Q, isInput l = false) (hQs : ∀ l ∈ Q, symOf l ≠ some S)
    (hS : S ≠ c!".") (hE : E ≠ c!".") (hZ : Z ≠ c!".") (hSE : S ≠ E) (hSZ : S ≠ Z) (hEZ : E ≠ Z)
    (st : St) (hin : Inside c st) (k : List Line) :
    ∃ (s e : Nat) (new : List Placed) (st' : St),
      st' = execK objs st (P ++ [linkerSym S .dot] ++ B ++ Q ++ [linkerSym E .dot, linkerSym Z (.absSub E S)]) k ∧
      st.dot ≤ s ∧ s ≤ e ∧ e = st'.dot ∧ Inside c st' ∧ st'.secs = st.secs ∧
      s = (execK objs st P ([linkerSym S .dot] ++ B ++ Q ++ [linkerSym E .dot, linkerSym Z (.absSub E S)] ++ k)).dot ∧
      lookupLast S st'.syms = some (.num s) ∧ lookupLast E st'.syms = some (.num e) ∧
      lookupLast Z st'.syms = some (.num ((e + M32 - s % M32) % M32)) ∧
      st'.placed = st.placed ++ new ∧ chainOk c.name s new e ∧ alignedAll c.subalign new ∧
      (∃ mid : St, Inside c mid ∧ s ≤ mid.dot ∧
        e = (execK objs mid Q ([linkerSym E .dot, linkerSym Z (.absSub E S)] ++ k)).dot) := by
  generalize hT : [linkerSym E .dot, linkerSym Z (.absSub E S)] = T
  have e1 : execK objs st (P ++ [linkerSym S .dot] ++ B ++ Q ++ T) k
      = execK objs (execK objs (execK objs (execK objs (execK objs st P ([linkerSym S .dot] ++ B ++ Q ++ T ++ k))
          [linkerSym S .dot] (B ++ Q ++ T ++ k)) B (Q ++ T ++ k)) Q (T ++ k)) T k := by
    simp only [execK_append, List.append_assoc]
  rw [e1]
  -- what follows a fragment does not matter
  generalize [linkerSym S .dot] ++ B ++ Q ++ T ++ k = K1
  generalize B ++ Q ++ T ++ k = K2
  generalize Q ++ T ++ k = K3
  generalize T ++ k = K4
  clear e1
  have a1 := run_inner objs sty wild c P hP st hin K1
  have p1 := run_inner_noinput objs hP hPn st K1
  generalize execK objs st P K1 = st1 at a1 p1 ⊢
  have e2 : execK objs st1 [linkerSym S .dot] K2 = setSym st1 S (.num st1.dot) := by
    rw [linkerSym, execK_sym objs a1.inside.nd hS]; rfl
  rw [e2]
  have a3 := run_inner objs sty wild c B hB _ (Adv.setSym a1.inside S (.num st1.dot)).inside K3
  have k3 := execK_keeps objs S B (setSym st1 S (.num st1.dot)) K3 hBs
  generalize execK objs (setSym st1 S (.num st1.dot)) B K3 = st3 at a3 k3 ⊢
  have a4 := run_inner objs sty wild c Q hQ st3 a3.inside K4
  have p4 := run_inner_noinput objs hQ hQn st3 K4
  have k4 := execK_keeps objs S Q st3 K4 hQs
  generalize h4 : execK objs st3 Q K4 = st4 at a4 p4 k4 ⊢
  -- E = .; Z = ABSOLUTE(E - S)
  have sS : lookupLast S st4.syms = some (.num st1.dot) := by rw [k4, k3, lookupLast_setSym, if_pos rfl]
  have oE : operand (setSym st4 E (.num st4.dot)) E = some st4.dot :=
    operand_num _ E _ hE (by rw [lookupLast_setSym, if_pos rfl])
  have oS : operand (setSym st4 E (.num st4.dot)) S = some st1.dot :=
    operand_num _ S _ hS (by rw [lookupLast_setSym, if_neg hSE.symm, sS])
  have e5 : execK objs st4 T k
      = setSym (setSym st4 E (.num st4.dot)) Z (.num ((st4.dot + M32 - st1.dot % M32) % M32)) := by
    rw [← hT, linkerSym, linkerSym, execK_sym objs a4.inside.nd hE, execK_sym objs (st := setSym st4 E _) a4.inside.nd hZ]
    simp only [eval, oE, oS]; rfl
  rw [e5]
  obtain ⟨new, hnew, hchain, halg⟩ := a3.placed
  refine ⟨st1.dot, st4.dot, new, _, rfl, a1.mono, Nat.le_trans a3.mono a4.mono, rfl, ⟨a4.inside.cur, a4.inside.le, a4.inside.nd⟩,
    a4.secs.trans (a3.secs.trans a1.secs), rfl, ?_, ?_, ?_, ?_, chainOk_extend a4.mono hchain, halg,
    st3, a3.inside, a3.mono, by rw [h4]⟩
  · rw [lookupLast_setSym, if_neg hSZ.symm, lookupLast_setSym, if_neg hSE.symm, sS]
  · rw [lookupLast_setSym, if_neg hEZ.symm, lookupLast_setSym, if_pos rfl]
  · rw [lookupLast_setSym, if_pos rfl]
  · rw [← p1]; exact p4.trans hnew

theorem body_symOf {sty : Style} {wild : Bool} {l : Line} (h : W.BodyLine sty wild l) {n : Str} (hn : symOf l = some n) :
    ∃ nm, n = sty.linkerOffset nm := by
  cases h with
  | input k p m s => cases hn
  | pad k => cases hn
  | offset nm => exact ⟨nm, Option.some.inj ((symOf_linkerSym _).symm.trans hn).symm⟩

def names (st : St) : List Str := st.syms.map (·.1)

theorem step_names_mono (objs : List InSec) (st : St) (l : Line) (r : List Line) :
    ∀ n ∈ names st, n ∈ names (step objs st l r) := by
  intro n hn
  unfold names at *
  rcases (step_frame objs st l r).syms with e | ⟨s, v, _, e⟩ <;> rw [e]
  · exact hn
  · rw [List.map_append]; exact List.mem_append_left _ hn

theorem exec_names_mono (objs : List InSec) : ∀ (ls : List Line) (st : St), ∀ n ∈ names st, n ∈ names (exec objs st ls) := by
  intro ls st n hn
  rw [exec_eq_execK]
  exact execK_rel objs (P := fun _ => True) (R := fun a b => n ∈ names a → n ∈ names b) (fun _ h => h)
    (fun h1 h2 h => h2 (h1 h)) (fun st l r _ => step_names_mono objs st l r n) ls st [] (fun _ _ => trivial) hn

theorem step_not_discard (objs : List InSec) (st : St) (l : Line) (r : List Line) (hd : st.inDiscard = false)
    (hl : l ≠ .discardHdr) : (step objs st l r).inDiscard = false := by
  rcases (step_frame objs st l r).inDiscard with h | ⟨h, _⟩ | ⟨_, h⟩
  · rw [h, hd]
  · exact absurd h hl
  · exact h

/-- every symbol assigned before the discard block is defined in the image, whatever follows (`B`). -/
theorem assigned_is_defined (objs : List InSec) : ∀ (A B : List Line) (st : St) (_ : st.inDiscard = false)
    (_ : ∀ l ∈ A, l ≠ .discardHdr) (s : Str) (e : Expr) (p h lk : Bool) (_ : s ≠ c!".")
    (_ : Line.assign s e p h lk ∈ A), s ∈ names (exec objs st (A ++ B)) := by
  intro A
  induction A with
  | nil => intro B st _ _ s e p h lk _ hm; cases hm
  | cons l rest ih =>
    intro B st hd hnd s e p h lk hs hm
    simp only [List.cons_append, exec]
    rcases List.mem_cons.1 hm with rfl | hm
    · apply exec_names_mono
      rw [step_assign_sym objs hs hd]
      simp [names]
    · exact ih B _ (step_not_discard objs st l _ hd (hnd l List.mem_cons_self))
        (fun x hx => hnd x (List.mem_cons_of_mem _ hx)) s e p h lk hs hm

end Ld
end Slinky
