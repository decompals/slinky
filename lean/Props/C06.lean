/-
  C06 — conditional inclusion follows the documented predicate for every entry kind.
-/
import Props.C07
import Props.C15
namespace Slinky.C06
open Slinky

/-- the early-exit chain of `should_emit_entry` and the documented formula, as functions of the seven tests they
make: `a` some pair of `exclude_if_any` matches; `b` `exclude_if_all` is empty, `c` all its pairs match; `p`
`include_if_any` is empty, `f` some pair of it matches; `q` `include_if_all` is empty, `g` all its pairs match. The
hypothesis: an empty list has no matching member. -/
theorem predicate_table : ∀ a b c p f q g : Bool, (p = true → f = false) →
    (if a then false else if !b && c then false
      else if !p || !q then
        !(if ((if !p then !f else false) || p) && !q then !g else (if !p then !f else false))
      else true)
    = (!a && !(!b && c) && ((p && q) || f || (!q && g))) := by
  decide

/-- **C06**: `should_emit_entry` (the code, mirrored line for line in `shouldEmit`) computes the
documented predicate (`specEmit`). -/
theorem predicate (o : Opts) (c : Cond) : shouldEmit o c = specEmit o c :=
  predicate_table _ _ _ _ _ _ _ fun h => by rw [List.isEmpty_iff.1 h]; rfl

def condKeysOf (c : Cond) : List Str :=
  (c.excludeIfAny ++ c.excludeIfAll ++ c.includeIfAny ++ c.includeIfAll).map (·.1)

theorem any_congrP {α} (l : List α) (f g : α → Bool) (h : ∀ x ∈ l, f x = g x) : l.any f = l.any g := by
  induction l with
  | nil => rfl
  | cons a as ih =>
    simp only [List.any_cons, h a List.mem_cons_self, ih (fun x hx => h x (List.mem_cons_of_mem _ hx))]

theorem all_congrP {α} (l : List α) (f g : α → Bool) (h : ∀ x ∈ l, f x = g x) : l.all f = l.all g := by
  induction l with
  | nil => rfl
  | cons a as ih =>
    simp only [List.all_cons, h a List.mem_cons_self, ih (fun x hx => h x (List.mem_cons_of_mem _ hx))]

theorem shouldEmit_agree (o o' : Opts) (c : Cond) (h : ∀ k ∈ condKeysOf c, o k = o' k) :
    shouldEmit o c = shouldEmit o' c := by
  have hp : ∀ p ∈ c.excludeIfAny ++ c.excludeIfAll ++ c.includeIfAny ++ c.includeIfAll, pairMatches o p = pairMatches o' p := by
    intro p hp
    unfold pairMatches optGet
    rw [h p.1 (List.mem_map.2 ⟨p, hp, rfl⟩)]
  simp only [List.mem_append, or_imp, forall_and] at hp
  unfold shouldEmit
  rw [any_congrP _ _ _ hp.1.1.1, all_congrP _ _ _ hp.1.1.2, any_congrP _ _ _ hp.1.2, all_congrP _ _ _ hp.2]

def tokKeys : List C07.Tok → List Str
  | [] => []
  | .key k :: rest => k :: tokKeys rest
  | _ :: rest => tokKeys rest

def pathKeysOf (p : Str) : List Str := ((components p).map fun c => tokKeys (C07.tokenize c)).flatten

theorem expandToks_agree (o o' : Opts) : ∀ (t : List C07.Tok), (∀ k ∈ tokKeys t, o k = o' k) →
    C07.expandToks o t = C07.expandToks o' t := by
  intro t
  induction t with
  | nil => intro _; rfl
  | cons x rest ih =>
    intro h
    cases x with
    | lit _ | unterminated _ => simp only [C07.expandToks, ih (fun k hk => h k (by simpa [tokKeys] using hk))]
    | key k =>
      have hk : o k = o' k := h k (by simp [tokKeys])
      simp only [C07.expandToks, optGet, hk, ih (fun k' hk' => h k' (by simp [tokKeys, hk']))]

theorem escapeComponentsSpec_agree (o o' : Opts) : ∀ (cs : List Str) (buf : Str),
    (∀ k ∈ (cs.map fun c => tokKeys (C07.tokenize c)).flatten, o k = o' k) →
    C07.escapeComponentsSpec o buf cs = C07.escapeComponentsSpec o' buf cs := by
  intro cs
  induction cs with
  | nil => intro buf _; rfl
  | cons c rest ih =>
    intro buf h
    have h1 : C07.expandComponentSpec o c = C07.expandComponentSpec o' c :=
      expandToks_agree o o' _ (fun k hk => h k (by simp [hk]))
    simp only [C07.escapeComponentsSpec, h1]
    cases C07.expandComponentSpec o' c with
    | error e => rfl
    | ok r => exact ih _ (fun k hk => h k (by simp only [List.map_cons, List.flatten_cons, List.mem_append]; exact Or.inr hk))

theorem escapePath_agree (o o' : Opts) (p : Str) (h : ∀ k ∈ pathKeysOf p, o k = o' k) :
    escapePath o p = escapePath o' p := by
  rw [C07.escapePath_spec]
  exact escapeComponentsSpec_agree o o' _ _ h

mutual
  /-- the two option maps decide the same about this entry and everything below it. -/
  def FOk (o o' : Opts) : FileInfo → Prop
    | .mk p _ _ _ _ _ _ fs dir c _ =>
      shouldEmit o c = shouldEmit o' c ∧ escapePath o p = escapePath o' p ∧ escapePath o dir = escapePath o' dir ∧ FOkL o o' fs
  def FOkL (o o' : Opts) : List FileInfo → Prop
    | [] => True
    | a :: as => FOk o o' a ∧ FOkL o o' as
end

theorem FOkL_mem (o o' : Opts) : ∀ (l : List FileInfo), FOkL o o' l → ∀ a ∈ l, FOk o o' a
  | [], _, _, h => nomatch h
  | b :: bs, h, a, ha => by
    unfold FOkL at h
    rcases List.mem_cons.1 ha with rfl | ha
    · exact h.1
    · exact FOkL_mem o o' bs h.2 a ha

/-- the emitter reads the options only through the verdicts and expansions `FOk` fixes. (Here and below the
hypotheses compare `o` with `o'`, as `FOk` does; the conclusions have the changed context on the left, as
`unmentioned_options_change_nothing` and the theorems of `Props/C15.lean` have.) -/
theorem emitEntry_opts (cx : Ctx) (hesc : cx.esc = escapePath) (o' : Opts) (seg : Segment) (secs : List Str) :
    ∀ (fuel : Nat) (f : FileInfo), FOk cx.o o' f → ∀ (sec base : Str) (parents : List Str),
      emitEntry { cx with o := o' } seg secs fuel f sec base parents = emitEntry cx seg secs fuel f sec base parents := by
  intro fuel f hf
  refine emitEntry_congr (cx := { cx with o := o' }) (cx' := cx) (seg' := seg) (fun f f' => f = f' ∧ FOk cx.o o' f) rfl rfl ?_ ?_ ?_ ?_ ?_ fuel f f ⟨rfl, hf⟩
  all_goals
    rintro ⟨p, k, sf, pa, se, lo, so, fs, dir, c, keep⟩ _ ⟨rfl, h⟩
    unfold FOk at h
    obtain ⟨h1, h2, h3, h4⟩ := h
  · exact h1.symm
  · intro _; rfl
  · rfl
  · intro grp k base
    simp only [fileBody, hesc, FileInfo.path, FileInfo.dir, ← h2, ← h3]
  · exact fun F F' hF => concatMapE_congr fun a ha => hF a a ⟨rfl, FOkL_mem _ _ fs h4 a ha⟩

structure SegOk (o o' : Opts) (seg : Segment) : Prop where
  cond : shouldEmit o seg.cond = shouldEmit o' seg.cond
  dir : escapePath o seg.dir = escapePath o' seg.dir
  gp : ∀ g, seg.gpInfo = some g → shouldEmit o g.cond = shouldEmit o' g.cond
  files : FOkL o o' seg.files

theorem emitSection_opts (cx : Ctx) (hesc : cx.esc = escapePath) (o' : Opts) (seg : Segment)
    (hb : escapePath cx.o cx.d.settings.basePath = escapePath o' cx.d.settings.basePath)
    (hd : escapePath cx.o seg.dir = escapePath o' seg.dir) (hf : FOkL cx.o o' seg.files) (sec : Str) (sections : List Str) :
    emitSection { cx with o := o' } seg sec sections = emitSection cx seg sec sections := by
  have hbase : C01.segBase { cx with o := o' } seg = C01.segBase cx seg := by
    unfold C01.segBase; simp only [hesc]; rw [← hb, ← hd]
  rw [emitSection_eq_bind, emitSection_eq_bind, hbase]
  exact congrArg _ (funext fun base => concatMapE_congr fun a ha =>
    emitEntry_opts cx hesc o' seg sections _ a (FOkL_mem _ _ _ hf a ha) sec base [])

theorem gpLine_opts (cx : Ctx) (o' : Opts) (seg : Segment) (sec : Str)
    (hg : ∀ g, seg.gpInfo = some g → shouldEmit cx.o g.cond = shouldEmit o' g.cond) :
    gpLine { cx with o := o' } seg sec = gpLine cx seg sec := by
  unfold gpLine
  cases h : seg.gpInfo with
  | none => rfl
  | some g => simp only [← hg g h]

theorem followedUsed_opts (cx : Ctx) (o' : Opts)
    (hall : ∀ s ∈ cx.d.segments, shouldEmit cx.o s.cond = shouldEmit o' s.cond) (vc : VramClass) :
    followedUsed { cx with o := o' } vc = followedUsed cx vc := by
  unfold followedUsed
  apply List.filter_congr
  intro other _
  exact any_congrP _ _ _ (fun s hs => by simp only [hall s hs])

theorem segOk_same (cx : Ctx) (hesc : cx.esc = escapePath) (o' : Opts)
    (hb : escapePath cx.o cx.d.settings.basePath = escapePath o' cx.d.settings.basePath)
    (hall : ∀ s ∈ cx.d.segments, shouldEmit cx.o s.cond = shouldEmit o' s.cond) (seg : Segment) (hs : SegOk cx.o o' seg) :
    (∀ em, addSegment { cx with o := o' } em seg = addSegment cx em seg) ∧
    addSingleSegment { cx with o := o' } seg = addSingleSegment cx seg := by
  have h : C15.SameSections cx { cx with o := o' } seg seg :=
    { ctx := ⟨_, _, ⟨_, _, _, _, rfl⟩, rfl⟩, frame := ⟨_, _, rfl⟩,
      emit := emitSection_opts cx hesc o' seg hb hs.dir hs.files, gp := fun sec => gpLine_opts cx o' seg sec hs.gp }
  exact ⟨C15.addSegment_congr h hs.cond.symm (followedUsed_opts cx o' hall), C15.addSingleSegment_congr h⟩

structure DocOk (o o' : Opts) (d : Document) : Prop where
  base : escapePath o d.settings.basePath = escapePath o' d.settings.basePath
  target : ∀ t, d.settings.targetPath = some t → escapePath o t = escapePath o' t
  segs : ∀ s ∈ d.segments, SegOk o o' s
  objects : ∀ folder, d.settings.partialBuildSegmentsFolder = some folder → ∀ s ∈ d.segments,
    escapePath o (pathPush folder (s.name ++ c!".o")) = escapePath o' (pathPush folder (s.name ++ c!".o"))
  assignments : ∀ a ∈ d.symbolAssignments, shouldEmit o a.cond = shouldEmit o' a.cond
  required : ∀ a ∈ d.requiredSymbols, shouldEmit o a.cond = shouldEmit o' a.cond
  asserts : ∀ a ∈ d.asserts, shouldEmit o a.cond = shouldEmit o' a.cond

theorem topLevel_opts (d : Document) (o o' : Opts) (h : DocOk o o' d) : topLevel d o' = topLevel d o := by
  unfold topLevel
  rw [List.filter_congr (l := d.symbolAssignments) (fun a ha => (h.assignments a ha).symm),
    List.filter_congr (l := d.requiredSymbols) (fun a ha => (h.required a ha).symm),
    List.filter_congr (l := d.asserts) (fun a ha => (h.asserts a ha).symm)]

theorem partialSegment_ok (o o' : Opts) (folder : Str) (seg : Segment) (hs : SegOk o o' seg)
    (hp : escapePath o (pathPush folder (seg.name ++ c!".o")) = escapePath o' (pathPush folder (seg.name ++ c!".o"))) :
    SegOk o o' (partialSegment folder seg) := by
  refine ⟨hs.cond, hs.dir, hs.gp, ?_⟩
  show FOkL o o' [FileInfo.newObject (pathPush folder (seg.name ++ c!".o"))]
  unfold FOkL FileInfo.newObject FOk
  refine ⟨⟨rfl, hp, ?_, by unfold FOkL; trivial⟩, by unfold FOkL; trivial⟩
  show escapePath o [] = escapePath o' []
  rw [C07.escapePath_spec]
  rfl

theorem generatePartial_opts (d : Document) (o o' : Opts) (h : DocOk o o' d) (vc : Bool) :
    generatePartial d o' vc = generatePartial d o vc := by
  have hall : ∀ s ∈ d.segments, shouldEmit o s.cond = shouldEmit o' s.cond := fun s hs => (h.segs s hs).cond
  refine C15.generatePartial_congr (R := fun s s' => s = s' ∧ s ∈ d.segments) ⟨_, _, _, _, rfl⟩ vc escapePath ?_
    (C15.forall₂_same fun s hs => ⟨rfl, hs⟩) (topLevel_opts d o o' h)
  rintro folder hf s _ ⟨rfl, hs⟩
  exact ⟨rfl, (hall s hs).symm, (segOk_same (C15.singleCtx d o escapePath) rfl o' h.base hall s (h.segs s hs)).2,
    (segOk_same (C15.mainCtx d o escapePath) rfl o' h.base hall _
      (partialSegment_ok o o' folder s (h.segs s hs) (h.objects folder hf s hs))).1⟩

theorem mainDeps_opts (d : Document) (o o' : Opts) (h : DocOk o o' d) (vc : Bool) (ls : List Line) :
    mainDeps d o' vc ls = mainDeps d o vc ls := by
  unfold mainDeps optEscape
  cases ht : d.settings.targetPath with
  | none => rfl
  | some t => simp only [← h.target t ht]

theorem partialDepsOf_opts (d : Document) (o o' : Opts) (h : DocOk o o' d) (vc : Bool) (ps : List (Str × List Line))
    (hf : ∀ f, d.settings.partialBuildSegmentsFolder = some f → escapePath o f = escapePath o' f) :
    partialDepsOf d o' vc escapePath ps = partialDepsOf d o vc escapePath ps := by
  unfold partialDepsOf partialTarget optEscape
  cases hp : d.settings.partialBuildSegmentsFolder with
  | none => simp only [← h.base]
  | some f => simp only [← h.base, ← hf f hp]

theorem generate_opts (d : Document) (o o' : Opts) (h : DocOk o o' d)
    (hf : ∀ f, d.settings.partialBuildSegmentsFolder = some f → escapePath o f = escapePath o' f)
    (m : Mode) (vc : Bool) :
    generate d o' m vc = generate d o m vc := by
  unfold generate generateNormal
  rw [topLevel_opts d o o' h, generatePartial_opts d o o' h vc,
    C15.addAllSegments_congr (cx := { d := d, o := o, esc := escapePath }) (R := fun s s' => s = s' ∧ s ∈ d.segments)
      ⟨o', _, ⟨_, _, _, _, rfl⟩, rfl⟩
      (fun s _ ⟨e, hs⟩ => e ▸ segOk_same { d := d, o := o, esc := escapePath } rfl o' h.base (fun s hs => (h.segs s hs).cond) s (h.segs s hs))
      (C15.forall₂_same fun s hs => ⟨rfl, hs⟩)]
  simp only [mainDeps_opts d o o' h, partialDepsOf_opts d o o' h vc _ hf]

mutual
  def fileKeys : FileInfo → List Str
    | .mk p _ _ _ _ _ _ fs dir c _ => condKeysOf c ++ pathKeysOf p ++ pathKeysOf dir ++ filesKeys fs
  def filesKeys : List FileInfo → List Str
    | [] => []
    | f :: fs => fileKeys f ++ filesKeys fs
end

def segKeys (seg : Segment) : List Str :=
  condKeysOf seg.cond ++ pathKeysOf seg.dir
  ++ (match seg.gpInfo with | some g => condKeysOf g.cond | none => [])
  ++ filesKeys seg.files

/-- every key a condition list or a `{key}` marker of the document names (markers in segment
names count where the name becomes part of a partial-object path). -/
def docKeys (d : Document) : List Str :=
  pathKeysOf d.settings.basePath
  ++ (match d.settings.targetPath with | some t => pathKeysOf t | none => [])
  ++ (match d.settings.partialBuildSegmentsFolder with
      | some f => pathKeysOf f ++ (d.segments.map fun s => pathKeysOf (pathPush f (s.name ++ c!".o"))).flatten
      | none => [])
  ++ (d.segments.map segKeys).flatten
  ++ (d.symbolAssignments.map fun a => condKeysOf a.cond).flatten
  ++ (d.requiredSymbols.map fun a => condKeysOf a.cond).flatten
  ++ (d.asserts.map fun a => condKeysOf a.cond).flatten

theorem fileKeys_ok (o o' : Opts) : ∀ (f : FileInfo), (∀ k ∈ fileKeys f, o k = o' k) → FOk o o' f
  | .mk p kd sf pa se lo so fs dir c keep, h => by
    simp only [fileKeys, List.mem_append, or_imp, forall_and] at h
    unfold FOk
    exact ⟨shouldEmit_agree o o' c h.1.1.1, escapePath_agree o o' p h.1.1.2, escapePath_agree o o' dir h.1.2, filesKeys_ok fs h.2⟩
where
  filesKeys_ok : ∀ (l : List FileInfo), (∀ k ∈ filesKeys l, o k = o' k) → FOkL o o' l
  | [], _ => by unfold FOkL; trivial
  | f :: fs, h => by
    simp only [filesKeys, List.mem_append, or_imp, forall_and] at h
    unfold FOkL
    exact ⟨fileKeys_ok o o' f h.1, filesKeys_ok fs h.2⟩

theorem segKeys_ok (o o' : Opts) (seg : Segment) (h : ∀ k ∈ segKeys seg, o k = o' k) : SegOk o o' seg := by
  simp only [segKeys, List.mem_append, or_imp, forall_and] at h
  exact ⟨shouldEmit_agree o o' _ h.1.1.1, escapePath_agree o o' _ h.1.1.2,
    fun g hg => shouldEmit_agree o o' _ fun k hk => h.1.2 k (by rw [hg]; exact hk), fileKeys_ok.filesKeys_ok o o' _ h.2⟩

/-- **C06: custom options that no condition and no path mentions never change any output.**
If two option maps agree on every key that a condition list or a `{key}` marker of the
document names (`docKeys`), every output of both modes is the same. -/
theorem unmentioned_options_change_nothing (d : Document) (o o' : Opts) (h : ∀ k ∈ docKeys d, o k = o' k)
    (m : Mode) (vc : Bool) : generate d o' m vc = generate d o m vc := by
  simp only [docKeys, List.mem_append, or_imp, forall_and] at h
  obtain ⟨⟨⟨⟨⟨⟨hb, ht⟩, hf⟩, hs⟩, ha⟩, hr⟩, hc⟩ := h
  refine generate_opts d o o' ⟨escapePath_agree o o' _ hb, ?_, ?_, ?_, ?_, ?_, ?_⟩ ?_ m vc
  · exact fun t e => escapePath_agree o o' _ fun k hk => ht k (by rw [e]; exact hk)
  · exact fun s hs' => segKeys_ok o o' s fun k hk => hs k (List.mem_flatten_of_mem (List.mem_map_of_mem hs') hk)
  · exact fun folder e s hs' => escapePath_agree o o' _ fun k hk =>
      hf k (by rw [e]; exact List.mem_append_right _ (List.mem_flatten_of_mem (List.mem_map_of_mem hs') hk))
  · exact fun a ha' => shouldEmit_agree o o' _ fun k hk => ha k (List.mem_flatten_of_mem (List.mem_map_of_mem ha') hk)
  · exact fun a ha' => shouldEmit_agree o o' _ fun k hk => hr k (List.mem_flatten_of_mem (List.mem_map_of_mem ha') hk)
  · exact fun a ha' => shouldEmit_agree o o' _ fun k hk => hc k (List.mem_flatten_of_mem (List.mem_map_of_mem ha') hk)
  · exact fun f e => escapePath_agree o o' _ fun k hk => hf k (by rw [e]; exact List.mem_append_left _ hk)

/-- the hypothesis is non-trivial: an option the document does not mention may differ. -/
example : ∀ k ∈ docKeys (C15.exDoc []), (fun _ => none : Opts) k = (fun k => if k = c!"zz" then some c!"1" else none : Opts) k := by
  decide

end Slinky.C06
