/-
  The equations of `fmt`, stated once, and the simp set `fmtNorm` that turns a text put together by `fmt` and
  `++` into a right-nested chain of `++`. (`simp only [fmt]` would have Lean derive the equation lemmas of `fmt`
  and its match splitter again in every module that asks; these are `rfl`.)
  A text tie is proved by unfolding the model's line (`unfold`, which needs no equation lemmas), then
  `simp only [fmtNorm] <;> rfl`: once the variable parts stand at the same places of both chains, that the
  literals between them agree is a computation.
-/
import Props.FmtAttr
import Slinkyv.Fmt
namespace Slinky

@[fmtNorm] theorem fmt_nil : fmt [] [] = [] := rfl
@[fmtNorm] theorem fmt_lit (s : Str) (ps : List Piece) (as : List Arg) : fmt (.lit s :: ps) as = s ++ fmt ps as := by
  cases as <;> rfl
@[fmtNorm] theorem fmt_disp_s (x : Str) (ps as) : fmt (.disp :: ps) (.s x :: as) = x ++ fmt ps as := rfl
@[fmtNorm] theorem fmt_disp_n (x : Nat) (ps as) : fmt (.disp :: ps) (.n x :: as) = toDec x ++ fmt ps as := rfl
@[fmtNorm] theorem fmt_hex_n (x : Nat) (ps as) : fmt (.hex :: ps) (.n x :: as) = toHex x ++ fmt ps as := rfl
@[fmtNorm] theorem fmt_hex8_n (x : Nat) (ps as) : fmt (.hex8 :: ps) (.n x :: as) = toHex8 x ++ fmt ps as := rfl
@[fmtNorm] theorem fmt_hex_i (x : Int) (ps as) : fmt (.hex :: ps) (.i x :: as) = toHexI32 x ++ fmt ps as := rfl

attribute [fmtNorm] List.append_assoc List.append_nil

end Slinky
