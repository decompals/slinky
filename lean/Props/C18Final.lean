/-
  C18 in the image `Ld.link` returns: every allowlisted section has an output section of its name. Behind the segments
  the link is outside every output section (`Ld.segments_between`); `end_sections` begins with symbol assignments (the
  class sizes), empty lines and the `x 0 : { *(x); }` of the two allowlists (`endSections_entries`), each of which records
  an output section `x` (`run_entries`), and output sections are never removed (`Ld.execK_secs`).
-/
import Props.C03Partial
namespace Slinky.C18
open Slinky W Ld

/-- a run of symbol assignments, empty lines and single-entry sections, reached outside an output section, ends outside one
and has recorded an output section for every entry. -/
theorem run_entries (objs : List InSec) : ∀ (ls : List Line) (_ : ∀ l ∈ ls, OuterLine l ∨ ∃ x, l = .singleEntry x c!"0")
    (st : St) (_ : Outside st) (k : List Line),
    Outside (execK objs st ls k) ∧
    ∀ x, Line.singleEntry x c!"0" ∈ ls → ∃ os ∈ (execK objs st ls k).secs, os.name = x ∧ os.noload = false := by
  intro ls
  induction ls with
  | nil => exact fun _ st ho k => ⟨ho, fun _ h => nomatch h⟩
  | cons l r ih =>
    intro hl st ho k
    have hr := fun y hy => hl y (List.mem_cons_of_mem _ hy)
    simp only [execK]
    rcases hl l List.mem_cons_self with h | ⟨x, rfl⟩
    · obtain ⟨o2, hall⟩ := ih hr _ (step_outer objs l h st ho (r ++ k)).1 k
      refine ⟨o2, fun x hx => ?_⟩
      rcases List.mem_cons.1 hx with rfl | hx
      · exact nomatch h
      · exact hall x hx
    · -- the entry records its output section and leaves the link between output sections
      have o1 : Outside (step objs st (Line.singleEntry x c!"0") (r ++ k)) :=
        ⟨by simp only [step, placeAll_cur]; exact ho.cur, by simp only [step]; rw [(placeAll_spec _ _ _ _).2.1]; exact ho.nd⟩
      obtain ⟨os, hsecs, hn, hnl⟩ : ∃ os, (step objs st (Line.singleEntry x c!"0") (r ++ k)).secs = st.secs ++ [os] ∧
          os.name = x ∧ os.noload = false := by
        simp only [step]
        exact ⟨_, by rw [placeAll_secs], rfl, rfl⟩
      obtain ⟨o2, hall⟩ := ih hr _ o1 k
      refine ⟨o2, fun y hy => ?_⟩
      rcases List.mem_cons.1 hy with e | hy
      · cases e
        exact ⟨os, execK_sec_kept objs _ r k os (by rw [hsecs]; exact List.mem_append_right _ List.mem_cons_self), hn, hnl⟩
      · exact hall y hy

/-- the class size statements of `end_sections`. -/
def sizeLines (cx : Ctx) (emitted : List Str) : List Line :=
  ((dedup (cx.d.vramClasses.map (·.name))).filter (· ∈ emitted)).map
    (fun n => linkerSym (cx.d.settings.style.classSize n) (.sub (cx.d.settings.style.classEnd n) (cx.d.settings.style.classStart n)))

theorem sizeLines_outer (cx : Ctx) (emitted : List Str) : ∀ l ∈ sizeLines cx emitted, OuterLine l := by
  intro l hl
  obtain ⟨n, _, rfl⟩ := List.mem_map.1 hl
  exact .sym _ _ _ _ _ ne_dot

/-- `end_sections`: the class sizes, then — each behind at most one empty line — the single-entry sections of the two
allowlists, then the rest. -/
theorem endSections_shape (cx : Ctx) (emitted : List Str) :
    ∃ (B1 B2 D : List Line), (B1 = [] ∨ B1 = [.blank]) ∧ (B2 = [] ∨ B2 = [.blank]) ∧
      endSections cx emitted = sizeLines cx emitted ++ (B1 ++ (cx.d.settings.sectionsAllowlist.map (fun x => Line.singleEntry x c!"0")
        ++ (B2 ++ (cx.d.settings.sectionsAllowlistExtra.map (fun x => Line.singleEntry x c!"0") ++ D)))) :=
  ⟨_, _, _, blankIf_cases _, blankIf_cases _, (endSections_eq cx emitted).trans (by simp only [List.append_assoc]; rfl)⟩

theorem endSections_entries (cx : Ctx) (emitted : List Str) : ∃ F D, endSections cx emitted = F ++ D ∧
    (∀ l ∈ F, OuterLine l ∨ ∃ x, l = .singleEntry x c!"0") ∧
    ∀ x, x ∈ cx.d.settings.sectionsAllowlist ∨ x ∈ cx.d.settings.sectionsAllowlistExtra → Line.singleEntry x c!"0" ∈ F := by
  have h := endSections_eq cx emitted
  rw [List.append_assoc] at h
  refine ⟨_, _, h, fun l hl => ?_, fun x hx => ?_⟩
  · simp only [List.mem_append] at hl
    rcases hl with (hl | hl | hl) | hl | hl
    · exact Or.inl (sizeLines_outer cx emitted l hl)
    · exact Or.inl (mem_blankIf hl ▸ .blank)
    · exact Or.inr ((List.mem_map.1 hl).imp fun x hx => hx.2.symm)
    · exact Or.inl (mem_blankIf hl ▸ .blank)
    · exact Or.inr ((List.mem_map.1 hl).imp fun x hx => hx.2.symm)
  · simp only [List.mem_append]
    exact hx.elim (fun h => Or.inl (Or.inr (Or.inr (List.mem_map.2 ⟨x, h, rfl⟩))))
      fun h => Or.inr (Or.inr (List.mem_map.2 ⟨x, h, rfl⟩))

/-- `final_allowlisted_sections` for any writer context. -/
theorem allowlisted_core (objs : List InSec) (cx : Ctx) (hsy : cx.emitSecSyms = true) (vc : Bool)
    (segs : List Segment) (ls : List Line) (emitted : List Str) (T : List Line)
    (hsegs : addSegments cx [] segs = .ok (ls, emitted))
    (hall : ∀ s ∈ segs, shouldEmit cx.o s.cond = true → s.allocSections ≠ [])
    (defsyms : List (Str × Nat)) (x : Str)
    (hx : x ∈ cx.d.settings.sectionsAllowlist ∨ x ∈ cx.d.settings.sectionsAllowlistExtra) :
    ∃ os ∈ (link objs defsyms (versionComment vc ++ (beginSections cx ++ ls ++ (endSections cx emitted ++ T)))).secs,
      os.name = x ∧ os.noload = false := by
  obtain ⟨F, D, hshape, hF, hin⟩ := endSections_entries cx emitted
  rw [hshape, List.append_assoc F D T]
  obtain ⟨st1, f⟩ := link_frame objs defsyms cx vc ls (F ++ (D ++ T))
  rw [f.image, execK_append]
  have hb2 := segments_between objs cx hsy hsegs hall st1 f.between (F ++ (D ++ T))
  obtain ⟨os, hos, h1, h2⟩ := (run_entries objs F hF _ hb2.out (D ++ T ++ [])).2 x (hin x hx)
  exact ⟨os, image_sec_kept objs _ _ os hos, h1, h2⟩

/-- **C18 in the linked image, for the whole ordinary script of a document: allowlisted sections have an output section
of their name.** -/
theorem final_allowlisted_sections (objs : List InSec) (d : Document) (o : Opts) (vc : Bool) (script : List Line)
    (hmulti : d.settings.singleSegmentMode = false)
    (h : generateNormal d o vc = .ok script)
    (hall : ∀ s ∈ d.segments, shouldEmit o s.cond = true → s.allocSections ≠ [])
    (defsyms : List (Str × Nat)) (x : Str)
    (hx : x ∈ d.settings.sectionsAllowlist ∨ x ∈ d.settings.sectionsAllowlistExtra) :
    ∃ os ∈ (link objs defsyms script).secs, os.name = x ∧ os.noload = false := by
  obtain ⟨ls, em, hsegs, rfl⟩ := (generateNormal_ok hmulti).1 h
  exact allowlisted_core objs { d := d, o := o } rfl vc d.segments ls em _ hsegs hall defsyms x hx

/-- the same for the main script of partial mode. -/
theorem final_allowlisted_sections_partial (objs : List InSec) (d : Document) (o : Opts) (vc : Bool) (out : PartialOut)
    (h : generatePartial d o vc = .ok out)
    (hall : ∀ s ∈ d.segments, shouldEmit o s.cond = true → s.allocSections ≠ [])
    (defsyms : List (Str × Nat)) (x : Str)
    (hx : x ∈ d.settings.sectionsAllowlist ∨ x ∈ d.settings.sectionsAllowlistExtra) :
    ∃ os ∈ (link objs defsyms out.main).secs, os.name = x ∧ os.noload = false := by
  obtain ⟨folder, ls, emitted, _, hsegs, hmain⟩ := C03.partial_main_shape d o vc out h
  rw [hmain]
  exact allowlisted_core objs (C03.partialCx d o) rfl vc _ ls emitted _ hsegs (C03.partialSegs_alloc d o folder hall) defsyms x hx

/-- the hypotheses are met: the defaults allowlist `.symtab`, `.strtab` and `.shstrtab`, and the image of the example
document of `Props/Example.lean` has an output section for each. -/
example : (match generateNormal C04.exDoc C04.exOpts false with
    | .ok script =>
      decide (C04.exDoc.settings.sectionsAllowlistExtra = [c!".symtab", c!".strtab", c!".shstrtab"])
      && [c!".symtab", c!".strtab", c!".shstrtab"].all (fun x => (link C04.exObjs [] script).secs.any (fun os => os.name = x))
    | .error _ => false) = true := by decide_with C04.exImage_eq

/-! ### a special case named in DESIGN.md; no proof uses it -/

/-- `run_entries` for a run of single-entry sections only. -/
theorem run_singleEntries (objs : List InSec) : ∀ (l : List Str) (st : St) (_ : Outside st) (k : List Line),
    Outside (execK objs st (l.map fun x => Line.singleEntry x c!"0") k) ∧
    (∃ extra, (execK objs st (l.map fun x => Line.singleEntry x c!"0") k).secs = st.secs ++ extra) ∧
    ∀ x ∈ l, ∃ os ∈ (execK objs st (l.map fun x => Line.singleEntry x c!"0") k).secs, os.name = x ∧ os.noload = false := by
  intro l st ho k
  obtain ⟨o, h⟩ := run_entries objs _ (fun y hy => Or.inr ((List.mem_map.1 hy).imp fun x hx => hx.2.symm)) st ho k
  exact ⟨o, execK_secs objs _ st k, fun x hx => h x (List.mem_map.2 ⟨x, hx, rfl⟩)⟩

end Slinky.C18
