/-
  C13 in the image `Ld.link` returns: every name the header declares is in the symbol table of the image. The declared
  names are the symbols written through `write_linker_symbol` (`C13.header_of_symbols`). All of them are written in front
  of the tail of `end_sections` (`endSections_linker`, `toplevel_not_declared`), that front part has no `/DISCARD/`
  header (`addSegments_no_discardHdr`), and an assignment outside `/DISCARD/` always defines its symbol
  (`C13.image_declared_are_defined`).
-/
import Props.C11Gen
import Props.C13
import Props.C18Final
namespace Slinky.C13
open Slinky W Ld

theorem addSegments_no_discardHdr (cx : Ctx) : ∀ (segs : List Segment) (em : List Str) (ls : List Line) (em' : List Str)
    (_ : addSegments cx em segs = .ok (ls, em')), ∀ l ∈ ls, l ≠ .discardHdr := by
  intro segs em ls em' h l hl e
  have hp := (C11.blockInputs_addSegments cx segs em ls em' h).2 l hl
  rw [e] at hp
  exact nomatch hp

/-- no statement of `end_sections` behind the class sizes records a linker symbol. -/
theorem endSections_linker (cx : Ctx) (emitted : List Str) :
    (endSections cx emitted).filterMap Line.linkerSym? = (C18.sizeLines cx emitted).filterMap Line.linkerSym? := by
  have hn : ∀ R : List Line, (∀ l ∈ R, l.linkerSym? = none) → R.filterMap Line.linkerSym? = [] :=
    fun R h => List.filterMap_eq_nil_iff.2 h
  have hb : ∀ b, (blankIf b).filterMap Line.linkerSym? = [] := fun b => hn _ fun l hl => mem_blankIf hl ▸ rfl
  have he : ∀ l : List Str, (singleEntries l).filterMap Line.linkerSym? = [] := fun l => hn _ fun y hy => by
    obtain ⟨x, _, rfl⟩ := List.mem_map.1 hy; rfl
  have hp : ∀ l : List Str, (l.map Line.discardPat).filterMap Line.linkerSym? = [] := fun l => hn _ fun y hy => by
    obtain ⟨x, _, rfl⟩ := List.mem_map.1 hy; rfl
  rw [endSections_eq, discardBlock]
  simp only [List.filterMap_append, hb, he, hp, apply_ite (List.filterMap Line.linkerSym?), List.filterMap_nil,
    List.filterMap_cons, Line.linkerSym?, ite_self, List.append_nil]
  rfl

/-- `final_declared_in_image` for any writer context. -/
theorem declared_core (objs : List InSec) (cx : Ctx) (vc : Bool)
    (segs : List Segment) (ls : List Line) (emitted : List Str) (d : Document) (o : Opts)
    (hsegs : addSegments cx [] segs = .ok (ls, emitted))
    (defsyms : List (Str × Nat)) (s : Str) (hne : s ≠ c!".")
    (hs : s ∈ linkerSymbols (versionComment vc ++ (beginSections cx ++ ls ++ (endSections cx emitted ++ topLevel d o)))) :
    s ∈ (link objs defsyms (versionComment vc ++ (beginSections cx ++ ls ++ (endSections cx emitted ++ topLevel d o)))).syms.map (·.1) := by
  obtain ⟨B1, B2, D, _, _, hshape⟩ := C18.endSections_shape cx emitted
  generalize B1 ++ (_ ++ (B2 ++ (_ ++ D))) = R at hshape
  -- the script is `A ++ B`; `B` records no linker symbol, and `A` holds no `/DISCARD/` header
  have hform : versionComment vc ++ (beginSections cx ++ ls ++ (endSections cx emitted ++ topLevel d o))
      = (versionComment vc ++ (beginSections cx ++ (ls ++ C18.sizeLines cx emitted))) ++ (R ++ topLevel d o) := by
    rw [hshape]; simp only [List.append_assoc]
  have hB : (R ++ topLevel d o).filterMap Line.linkerSym? = [] := by
    have h := endSections_linker cx emitted
    rw [hshape, List.filterMap_append] at h
    rw [List.filterMap_append, List.append_right_eq_self.1 h, List.nil_append]
    exact List.filterMap_eq_nil_iff.2 (toplevel_not_declared d o)
  rw [hform] at hs ⊢
  rw [linkerSymbols, List.filterMap_append, hB, List.append_nil] at hs
  have hAd : ∀ l ∈ versionComment vc ++ (beginSections cx ++ (ls ++ C18.sizeLines cx emitted)), l ≠ .discardHdr := by
    simp only [List.forall_mem_append]
    exact ⟨fun l hl => (simple_ne (versionComment_simple vc l hl)).1, fun l hl => (simple_ne (beginSections_simple cx l hl)).1,
      addSegments_no_discardHdr cx segs [] ls emitted hsegs, fun l hl => (simple_ne (C18.sizeLines_outer cx emitted l hl).simple).1⟩
  rw [link_eq]
  generalize carry _ = S0
  have hdef := image_declared_are_defined objs _ (R ++ topLevel d o) { syms := S0 } rfl hAd s hs hne
  rw [exec_eq_execK] at hdef
  unfold names at hdef
  simp only [imageOf, carry, List.map_map, Function.comp_def, List.map_id']
  exact (mem_dedup _ _).2 hdef

/-- **C13 in the linked image, for the whole ordinary script of a document: every declared name has an entry in the symbol
table** (with whatever value the link gave it). The names
the header declares are the linker symbols of the script (`C13.header_of_symbols`); each of them is in the symbol table
of the image. -/
theorem final_declared_in_image (objs : List InSec) (d : Document) (o : Opts) (vc : Bool) (script : List Line)
    (hmulti : d.settings.singleSegmentMode = false)
    (h : generateNormal d o vc = .ok script)
    (defsyms : List (Str × Nat)) (s : Str) (hne : s ≠ c!".") (hs : s ∈ linkerSymbols script) :
    s ∈ (link objs defsyms script).syms.map (·.1) := by
  obtain ⟨ls, em, hsegs, rfl⟩ := (generateNormal_ok hmulti).1 h
  exact declared_core objs { d := d, o := o } vc d.segments ls em d o hsegs defsyms s hne hs

/-- the same for the main script of partial mode. -/
theorem final_declared_in_image_partial (objs : List InSec) (d : Document) (o : Opts) (vc : Bool) (out : PartialOut)
    (h : generatePartial d o vc = .ok out)
    (defsyms : List (Str × Nat)) (s : Str) (hne : s ≠ c!".") (hs : s ∈ linkerSymbols out.main) :
    s ∈ (link objs defsyms out.main).syms.map (·.1) := by
  obtain ⟨folder, ls, emitted, _, hsegs, hmain⟩ := C03.partial_main_shape d o vc out h
  rw [hmain] at hs ⊢
  exact declared_core objs (C03.partialCx d o) vc _ ls emitted d o hsegs defsyms s hne hs

/-- the hypotheses are met: the script of the example document of `Props/Example.lean` records 42 linker symbols, each in the
symbol table of its image. -/
example : (match generateNormal C04.exDoc C04.exOpts false with
    | .ok script =>
      decide ((linkerSymbols script).length = 42)
      && (linkerSymbols script).all (fun s => (link C04.exObjs [] script).syms.any (fun kv => kv.1 = s))
    | .error _ => false) = true := by decide_with C04.exImage_eq

end Slinky.C13
