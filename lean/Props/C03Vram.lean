/-
  C03 / C09 in the image `Ld.link` returns: the VRAM end symbol of every emitted segment.

  `segment_run` says that behind a segment its VRAM end symbol holds the location counter
  behind the noload part, rounded up to the segment end alignment.  `segments_vram_end` carries
  that through the later segments (`Once.behind`), `vram_end_main` through the rest of the
  script and into the image, for every name the script assigns once.
-/
import Props.MainScript
namespace Slinky.C03
open Slinky W Ld

theorem le_alignO (o : Option Nat) (x : Nat) : x ≤ alignO o x := by
  unfold alignO
  split
  · exact le_alignUp _ _
  · exact Nat.le_refl _

/-- what is known about one emitted segment behind all segments; `z = (seg, aS, aE, dN)` as in `SegImage`. -/
def VramFact (sty : Style) (ls : List Line) (st' : St) (z : Segment × Nat × Nat × Nat) : Prop :=
  z.2.1 ≤ z.2.2.1 ∧ z.2.2.1 ≤ z.2.2.2 ∧
  (∃ o ∈ st'.secs, o.name = c!"." ++ z.1.name ∧ o.addr = z.2.1 ∧ o.size = z.2.2.1 - z.2.1 ∧ o.noload = false) ∧
  (assignCount (sty.segVramEnd z.1.name) ls ≤ 1 →
    lookupLast (sty.segVramEnd z.1.name) st'.syms = some (.num (alignO z.1.segmentEndAlign z.2.2.2))) ∧
  1 ≤ assignCount (sty.segVramEnd z.1.name) ls

theorem VramFact.of_run {cx : Ctx} {seg : Segment} {cls : List Line} {st st' : St} {r aS aE al dN : Nat} {lmaV : Option Nat}
    (hS : SegImage cx seg cls st st' r aS aE al dN lmaV) (alloc noload : List Line) :
    VramFact cx.d.settings.style (segmentLines cx seg cls alloc noload) st' (seg, aS, aE, dN) :=
  ⟨hS.le_alloc, hS.le_noload, ⟨_, hS.sec, rfl, rfl, rfl, rfl⟩, fun _ => by rw [hS.vramEnd, hS.dot],
    vramEnd_assigned cx seg cls alloc noload⟩

theorem VramFact.append {sty : Style} {z : Segment × Nat × Nat × Nat} {m : List Line} {st : St} (h : VramFact sty m st z)
    (objs : List InSec) (b k : List Line) : VramFact sty (m ++ b) (execK objs st b k) z := by
  obtain ⟨f1, f2, ⟨o, ho, f3⟩, f4, f5⟩ := h
  have g := Once.behind ⟨f5, f4⟩ objs b k
  exact ⟨f1, f2, ⟨o, execK_sec_kept objs st b k o ho, f3⟩, g.2, g.1⟩

theorem VramFact.prepend {sty : Style} {z : Segment × Nat × Nat × Nat} {m : List Line} {st : St} (h : VramFact sty m st z)
    (a : List Line) : VramFact sty (a ++ m) st z := by
  obtain ⟨f1, f2, f3, f4, f5⟩ := h
  have g := Once.front ⟨f5, f4⟩ a
  exact ⟨f1, f2, f3, g.2, g.1⟩

/-- **the VRAM end symbols behind all segments.** -/
theorem segments_vram_end (objs : List InSec) (cx : Ctx) (hsy : cx.emitSecSyms = true) :
    ∀ (segs : List Segment) (em : List Str) (ls : List Line) (em' : List Str)
      (_ : addSegments cx em segs = .ok (ls, em'))
      (_ : ∀ s ∈ segs, shouldEmit cx.o s.cond = true → s.allocSections ≠ [])
      (st : St) (_ : Outside st) (r : Nat) (_ : lookupLast Ld.romPos st.syms = some (.num r)) (k : List Line),
      ∃ (zs : List (Segment × Nat × Nat × Nat)) (st' : St) (r' : Nat),
        st' = execK objs st ls k ∧ Outside st' ∧ lookupLast Ld.romPos st'.syms = some (.num r') ∧
        zs.map (·.1) = segs.filter (fun s => shouldEmit cx.o s.cond) ∧
        ∀ z ∈ zs, VramFact cx.d.settings.style ls st' z := by
  intro segs em ls em' h hall st ho r hr k
  obtain ⟨r', o', hr', zs, hz, hf⟩ := segments_run objs cx hsy
    (I := fun pre done st' _ => ∃ zs : List (Segment × Nat × Nat × Nat),
      zs.map (·.1) = pre.filter (fun s => shouldEmit cx.o s.cond) ∧ ∀ z ∈ zs, VramFact cx.d.settings.style done st' z)
    h hall ho hr k ⟨[], rfl, fun _ h => nomatch h⟩
    (fun h he => by
      obtain ⟨zs, hz, hf⟩ := h
      exact ⟨zs, by rw [hz, List.filter_append, List.filter_cons, he]; simp, hf⟩)
    (fun {seg _ alloc noload aS aE dN done} => fun h he _ hS => by
      obtain ⟨zs, hz, hf⟩ := h
      refine ⟨zs ++ [(seg, aS, aE, dN)], by rw [List.map_append, hz, List.filter_append, List.filter_cons, he]; simp,
        fun z hz' => ?_⟩
      rcases List.mem_append.1 hz' with hz' | hz'
      · exact (hf z hz').append objs _ _
      · cases List.mem_singleton.1 hz'
        exact (VramFact.of_run hS alloc noload).prepend done)
  exact ⟨zs, _, r', rfl, o', hr', hz, hf⟩

theorem vram_end_main (objs : List InSec) {cx : Ctx} {segs : List Segment} {script : List Line}
    (hS : MainScript cx segs script) (defsyms : List (Str × Nat)) :
    ∃ zs : List (Segment × Nat × Nat × Nat),
      zs.map (·.1) = segs.filter (fun s => shouldEmit cx.o s.cond) ∧
      ∀ z ∈ zs, z.2.1 ≤ z.2.2.1 ∧ z.2.2.1 ≤ z.2.2.2 ∧
        (∃ os ∈ (link objs defsyms script).secs, os.name = c!"." ++ z.1.name ∧ os.addr = z.2.1 ∧ os.size = z.2.2.1 - z.2.1 ∧ os.noload = false) ∧
        (assignCount (cx.d.settings.style.segVramEnd z.1.name) script ≤ 1 →
          (link objs defsyms script).sym (cx.d.settings.style.segVramEnd z.1.name)
            = some (alignO z.1.segmentEndAlign z.2.2.2)) := by
  obtain ⟨ls, emitted, T, st1, hsegs, f⟩ := hS.frame objs defsyms
  rw [f.image]
  obtain ⟨zs, _, _, rfl, _, _, hz, hf⟩ :=
    segments_vram_end objs cx hS.syms segs [] ls emitted hsegs hS.alloc st1 f.between.out 0 f.rom T
  refine ⟨zs, hz, fun z hzm => ?_⟩
  obtain ⟨f1, f2, ⟨os, hos, g⟩, f4, f5⟩ := hf z hzm
  refine ⟨f1, f2, ⟨os, image_sec_kept objs _ T os hos, g⟩, fun hcnt => ?_⟩
  rw [f.count] at hcnt
  exact Once.image ⟨f5, f4⟩ objs T (Nat.le_trans (Nat.le_add_left _ _) hcnt)

/-- **C03 / C09 in the linked image, for the whole ordinary script: the VRAM end symbols.**
In the image `Ld.link` computes for the generated script there are, for every emitted segment,
numbers `aS ≤ aE ≤ dN` such that the output section `.<segment>` is recorded at `aS` with size
`aE - aS`, and — when the script assigns the name once — the VRAM end symbol is `dN` rounded up
to the segment end alignment. -/
theorem final_vram_end (objs : List InSec) (d : Document) (o : Opts) (vc : Bool) (script : List Line)
    (hmulti : d.settings.singleSegmentMode = false)
    (h : generateNormal d o vc = .ok script)
    (hall : ∀ s ∈ d.segments, shouldEmit o s.cond = true → s.allocSections ≠ [])
    (defsyms : List (Str × Nat)) :
    ∃ zs : List (Segment × Nat × Nat × Nat),
      zs.map (·.1) = d.segments.filter (fun s => shouldEmit o s.cond) ∧
      ∀ z ∈ zs, z.2.1 ≤ z.2.2.1 ∧ z.2.2.1 ≤ z.2.2.2 ∧
        (∃ os ∈ (link objs defsyms script).secs, os.name = c!"." ++ z.1.name ∧ os.addr = z.2.1 ∧ os.size = z.2.2.1 - z.2.1 ∧ os.noload = false) ∧
        (assignCount (d.settings.style.segVramEnd z.1.name) script ≤ 1 →
          (link objs defsyms script).sym (d.settings.style.segVramEnd z.1.name)
            = some (alignO z.1.segmentEndAlign z.2.2.2)) :=
  vram_end_main objs (MainScript.normal d o vc script hmulti h hall) defsyms

/-- `final_vram_end` for the main script of partial mode. -/
theorem final_vram_end_partial (objs : List InSec) (d : Document) (o : Opts) (vc : Bool) (out : PartialOut)
    (h : generatePartial d o vc = .ok out)
    (hall : ∀ s ∈ d.segments, shouldEmit o s.cond = true → s.allocSections ≠ [])
    (defsyms : List (Str × Nat)) (folder : Str) (hfolder : d.settings.partialBuildSegmentsFolder = some folder) :
    ∃ zs : List (Segment × Nat × Nat × Nat),
      zs.map (·.1) = partialSegs d o folder ∧
      ∀ z ∈ zs, z.2.1 ≤ z.2.2.1 ∧ z.2.2.1 ≤ z.2.2.2 ∧
        (∃ os ∈ (link objs defsyms out.main).secs, os.name = c!"." ++ z.1.name ∧ os.addr = z.2.1 ∧ os.size = z.2.2.1 - z.2.1 ∧ os.noload = false) ∧
        (assignCount (d.settings.style.segVramEnd z.1.name) out.main ≤ 1 →
          (link objs defsyms out.main).sym (d.settings.style.segVramEnd z.1.name)
            = some (alignO z.1.segmentEndAlign z.2.2.2)) := by
  obtain ⟨zs, hz, hfacts⟩ := vram_end_main objs (MainScript.partial d o vc out h hall folder hfolder) defsyms
  exact ⟨zs, hz.trans (List.filter_eq_self.2 fun s hs => partialSegs_emitted d o folder s hs), hfacts⟩

/-- hence the VRAM end is a multiple of the requested end alignment (the C09 clause), and lies
behind the end of the allocatable output section. -/
theorem final_vram_end_aligned (objs : List InSec) (d : Document) (o : Opts) (vc : Bool) (script : List Line)
    (hmulti : d.settings.singleSegmentMode = false)
    (h : generateNormal d o vc = .ok script)
    (hall : ∀ s ∈ d.segments, shouldEmit o s.cond = true → s.allocSections ≠ [])
    (defsyms : List (Str × Nat)) (seg : Segment) (hm : seg ∈ d.segments) (hinc : shouldEmit o seg.cond = true)
    (hc : assignCount (d.settings.style.segVramEnd seg.name) script ≤ 1) :
    ∃ (v : Nat) (os : OutSec), (link objs defsyms script).sym (d.settings.style.segVramEnd seg.name) = some v ∧
      os ∈ (link objs defsyms script).secs ∧ os.name = c!"." ++ seg.name ∧ os.noload = false ∧ os.addr + os.size ≤ v ∧
      ∀ a, seg.segmentEndAlign = some a → 1 ≤ a → a ∣ v := by
  obtain ⟨zs, hz, hf⟩ := final_vram_end objs d o vc script hmulti h hall defsyms
  have hmem : seg ∈ zs.map (·.1) := by rw [hz]; exact List.mem_filter.2 ⟨hm, by simpa using hinc⟩
  obtain ⟨z, hzm, rfl⟩ := List.mem_map.1 hmem
  obtain ⟨f1, f2, ⟨os, hos, g1, g2, g3, g4⟩, f4⟩ := hf z hzm
  refine ⟨_, os, f4 hc, hos, g1, g4, ?_, ?_⟩
  · rw [g2, g3]
    exact Nat.le_trans (Nat.le_of_eq (Nat.add_sub_of_le f1)) (Nat.le_trans f2 (le_alignO _ _))
  · intro a ha h1
    unfold alignO
    rw [ha]
    exact alignUp_dvd' _ _ h1

theorem addSegment_outside (objs : List InSec) (cx : Ctx) (hsy : cx.emitSecSyms = true) (em : List Str) (seg : Segment)
    (lsSeg : List Line) (em' : List Str) (hadd : addSegment cx em seg = .ok (lsSeg, em'))
    (hne : shouldEmit cx.o seg.cond = true → seg.allocSections ≠ [])
    (st : St) (ho : Outside st) (r : Nat) (hr : lookupLast romPos st.syms = some (.num r)) (k : List Line) :
    Outside (execK objs st lsSeg k) ∧ ∃ r', lookupLast romPos (execK objs st lsSeg k).syms = some (.num r') :=
  have hb := addSegment_between objs cx hsy hadd hne st ⟨ho, r, hr⟩ k
  ⟨hb.out, hb.rom⟩

end Slinky.C03
