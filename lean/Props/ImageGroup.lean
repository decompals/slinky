/-
  The linker semantics applied to what the writer emits for one section group (`write_section_symbol_start`, the
  per-file statements, `write_section_symbol_end`): start/end/size symbols, alignment, and the placed input sections,
  for every object table and every state of the link in which the group's output section is open.
-/
import Props.Image
namespace Slinky
namespace Ld
open W

def alignOpt (o : Option Nat) : List Line :=
  match o with
  | some a => [alignSymbol c!"." a]
  | none => []

/-- the value of `ALIGN(x, a)` for an optional request. -/
def alignO (o : Option Nat) (x : Nat) : Nat :=
  match o with
  | some a => Ld.alignUp x a
  | none => x

theorem groupStart_eq (cx : Ctx) (seg : Segment) (sec : Str) (h : cx.emitSecSyms = true) :
    sectionSymStart cx seg sec =
      alignOpt seg.sectionStartAlign ++ alignOpt (lookup sec seg.sectionsStartAlignment) ++ gpLine cx seg sec
      ++ [linkerSym (cx.d.settings.style.secStart seg.name sec) .dot] := by
  cases h1 : seg.sectionStartAlign <;> cases h2 : lookup sec seg.sectionsStartAlignment <;>
    simp [sectionSymStart, h, h1, h2, alignOpt]

theorem groupEnd_eq (cx : Ctx) (seg : Segment) (sec : Str) (h : cx.emitSecSyms = true) :
    sectionSymEnd cx seg sec =
      alignOpt seg.sectionEndAlign ++ alignOpt (lookup sec seg.sectionsEndAlignment)
      ++ [linkerSym (cx.d.settings.style.secEnd seg.name sec) .dot,
          linkerSym (cx.d.settings.style.secSize seg.name sec)
            (.absSub (cx.d.settings.style.secEnd seg.name sec) (cx.d.settings.style.secStart seg.name sec))] := by
  cases h1 : seg.sectionEndAlign <;> cases h2 : lookup sec seg.sectionsEndAlignment <;>
    simp [sectionSymEnd, h, symEndSize, h1, h2, alignOpt]

theorem two_aligns_lines (sty : Style) (wild : Bool) {o₁ o₂ : Option Nat} {l : Line} (hl : l ∈ alignOpt o₁ ++ alignOpt o₂) :
    InnerLine sty wild l ∧ isInput l = false ∧ symOf l = none := by
  obtain ⟨a, rfl⟩ := (List.mem_append.1 hl).elim optAlign_mem optAlign_mem
  exact ⟨.alignDot a, rfl, rfl⟩

theorem alignOpt_dot (objs : List InSec) (o : Option Nat) (c : Cur) (st : St) (hin : Inside c st) (k : List Line) :
    Inside c (execK objs st (alignOpt o) k) ∧
    (execK objs st (alignOpt o) k).dot = c.addr + alignO o (st.dot - c.addr) := by
  cases o with
  | none =>
    simp only [alignOpt, execK, alignO]
    exact ⟨hin, by have := hin.le; omega⟩
  | some a =>
    simp only [alignOpt, execK, alignO, step_inner_alignDot objs hin]
    exact ⟨⟨hin.cur, by simp, hin.nd⟩, trivial⟩

theorem gpLine_dot (objs : List InSec) (cx : Ctx) (seg : Segment) (sec : Str) (c : Cur) (st : St) (hin : Inside c st) (k : List Line) :
    (execK objs st (gpLine cx seg sec) k).dot = st.dot := by
  unfold gpLine
  split
  · rfl
  · split
    · simp only [execK]
      rw [step_assign_sym objs ne_dot hin.nd]
    · rfl

/-- the second alignment rounds up what the first left (which of the two requests then hold: `C09.two_aligns`). -/
theorem two_aligns_dot (objs : List InSec) (o₁ o₂ : Option Nat) (c : Cur) (st : St) (hin : Inside c st) (k : List Line) :
    Inside c (execK objs st (alignOpt o₁ ++ alignOpt o₂) k) ∧
    (execK objs st (alignOpt o₁ ++ alignOpt o₂) k).dot = c.addr + alignO o₂ (alignO o₁ (st.dot - c.addr)) := by
  rw [execK_append]
  obtain ⟨i1, d1⟩ := alignOpt_dot objs o₁ c st hin (alignOpt o₂ ++ k)
  obtain ⟨i2, d2⟩ := alignOpt_dot objs o₂ c _ i1 k
  refine ⟨i2, ?_⟩
  rw [d2, d1]
  congr 2
  omega

/-- what the link has done behind the statements of one section group that it reached in `st` inside the output
section `c`: `st'` is the state behind them, `s` the start of the group (the location counter after both start
alignments), `e` its end (after both end alignments), `new` what the group placed. -/
structure GroupImage (cx : Ctx) (seg : Segment) (sec : Str) (c : Cur) (st st' : St) (s e : Nat) (new : List Placed) : Prop where
  start : s = c.addr + alignO (lookup sec seg.sectionsStartAlignment) (alignO seg.sectionStartAlign (st.dot - c.addr))
  le_start : st.dot ≤ s
  le : s ≤ e
  dot : e = st'.dot
  inside : Inside c st'
  secs : st'.secs = st.secs
  startSym : lookupLast (cx.d.settings.style.secStart seg.name sec) st'.syms = some (.num s)
  endSym : lookupLast (cx.d.settings.style.secEnd seg.name sec) st'.syms = some (.num e)
  sizeSym : lookupLast (cx.d.settings.style.secSize seg.name sec) st'.syms = some (.num ((e + M32 - s % M32) % M32))
  placed : st'.placed = st.placed ++ new
  chain : chainOk c.name s new e
  aligned : alignedAll c.subalign new
  stop : ∃ m, s ≤ m ∧ e = c.addr + alignO (lookup sec seg.sectionsEndAlignment) (alignO seg.sectionEndAlign (m - c.addr))

theorem group_run (objs : List InSec) (cx : Ctx) (seg : Segment) (sec : Str) (hsy : cx.emitSecSyms = true)
    (body : List Line) (hb : ∀ l ∈ body, BodyLine cx.d.settings.style seg.wildcardSections l)
    (c : Cur) (st : St) (hin : Inside c st) (k : List Line) :
    ∃ (s e : Nat) (new : List Placed),
      GroupImage cx seg sec c st (execK objs st (sectionSymStart cx seg sec ++ body ++ sectionSymEnd cx seg sec) k) s e new := by
  have hshape : sectionSymStart cx seg sec ++ body ++ sectionSymEnd cx seg sec
      = (alignOpt seg.sectionStartAlign ++ alignOpt (lookup sec seg.sectionsStartAlignment) ++ gpLine cx seg sec)
        ++ [linkerSym (cx.d.settings.style.secStart seg.name sec) .dot] ++ body
        ++ (alignOpt seg.sectionEndAlign ++ alignOpt (lookup sec seg.sectionsEndAlignment))
        ++ [linkerSym (cx.d.settings.style.secEnd seg.name sec) .dot,
            linkerSym (cx.d.settings.style.secSize seg.name sec)
              (.absSub (cx.d.settings.style.secEnd seg.name sec) (cx.d.settings.style.secStart seg.name sec))] := by
    rw [groupStart_eq cx seg sec hsy, groupEnd_eq cx seg sec hsy]
    simp only [List.append_assoc]
  have hP : ∀ l ∈ alignOpt seg.sectionStartAlign ++ alignOpt (lookup sec seg.sectionsStartAlignment) ++ gpLine cx seg sec,
      InnerLine cx.d.settings.style seg.wildcardSections l ∧ isInput l = false := fun l hl =>
    (List.mem_append.1 hl).elim (fun h => have t := two_aligns_lines cx.d.settings.style seg.wildcardSections h; ⟨t.1, t.2.1⟩)
      (fun h => by obtain ⟨off, p, g, rfl⟩ := gpLine_mem h; exact ⟨.gp off p g, rfl⟩)
  have hQ := fun l (hl : l ∈ alignOpt seg.sectionEndAlign ++ alignOpt (lookup sec seg.sectionsEndAlignment)) =>
    two_aligns_lines cx.d.settings.style seg.wildcardSections hl
  obtain ⟨s, e, new, st', hst', h1, h2, h3, h4, h5, hs, h6, h7, h8, h9, h10, h11, mid, hmid, hsm, hem⟩ :=
    bracket_run objs cx.d.settings.style seg.wildcardSections c _ body _ (cx.d.settings.style.secStart seg.name sec)
      (cx.d.settings.style.secEnd seg.name sec) (cx.d.settings.style.secSize seg.name sec)
      (fun l hl => (hP l hl).1) (fun l hl => (hP l hl).2)
      (fun l hl => .body (hb l hl)) (fun l hl e => by obtain ⟨nm, h⟩ := body_symOf (hb l hl) e; exact absurd h name_ne)
      (fun l hl => (hQ l hl).1) (fun l hl => (hQ l hl).2.1) (fun l hl e => nomatch (hQ l hl).2.2.symm.trans e)
      ne_dot ne_dot ne_dot name_ne name_ne name_ne
      st hin k
  rw [hshape, ← hst']
  refine ⟨s, e, new, ?_, h1, h2, h3, h4, h5, h6, h7, h8, h9, h10, h11, mid.dot, hsm, ?_⟩
  · have h2 := two_aligns_dot objs seg.sectionStartAlign (lookup sec seg.sectionsStartAlignment) c st hin
    rw [hs, execK_append, gpLine_dot objs cx seg sec c _ (h2 _).1, (h2 _).2]
  · rw [hem]
    exact (two_aligns_dot objs _ _ c mid hmid _).2

/-- the state of the link behind one section group (`group_run` as a tuple). Behind the group's statements, reached inside the
output section `c`: its start symbol holds the location counter after both start alignments (`s`), its end symbol the
one after both end alignments (`e`), `s ≤ e`, its size symbol `e - s` as a 32-bit value; the input sections the group
placed lie between `s` and `e`, in the order of the statements, without overlap, all in `c`; no output section was
closed and `c` is still open. -/
theorem group_image (objs : List InSec) (cx : Ctx) (seg : Segment) (sec : Str) (hsy : cx.emitSecSyms = true)
    (body : List Line) (hb : ∀ l ∈ body, BodyLine cx.d.settings.style seg.wildcardSections l)
    (c : Cur) (st : St) (hin : Inside c st) (k : List Line) :
    ∃ (s e : Nat) (new : List Placed) (st' : St),
      st' = execK objs st (sectionSymStart cx seg sec ++ body ++ sectionSymEnd cx seg sec) k ∧
      s = c.addr + alignO (lookup sec seg.sectionsStartAlignment) (alignO seg.sectionStartAlign (st.dot - c.addr)) ∧
      st.dot ≤ s ∧ s ≤ e ∧ e = st'.dot ∧ Inside c st' ∧ st'.secs = st.secs ∧
      lookupLast (cx.d.settings.style.secStart seg.name sec) st'.syms = some (.num s) ∧
      lookupLast (cx.d.settings.style.secEnd seg.name sec) st'.syms = some (.num e) ∧
      lookupLast (cx.d.settings.style.secSize seg.name sec) st'.syms = some (.num ((e + M32 - s % M32) % M32)) ∧
      st'.placed = st.placed ++ new ∧ chainOk c.name s new e ∧ alignedAll c.subalign new ∧
      (∃ m, s ≤ m ∧ e = c.addr + alignO (lookup sec seg.sectionsEndAlignment) (alignO seg.sectionEndAlign (m - c.addr))) := by
  obtain ⟨s, e, new, h⟩ := group_run objs cx seg sec hsy body hb c st hin k
  exact ⟨s, e, new, _, rfl, h.start, h.le_start, h.le, h.dot, h.inside, h.secs, h.startSym, h.endSym, h.sizeSym, h.placed, h.chain,
    h.aligned, h.stop⟩

theorem gp_not_assigned_after (cx : Ctx) (seg : Segment) (sec : Str) (hsy : cx.emitSecSyms = true) (body : List Line)
    (hb : ∀ l ∈ body, BodyLine cx.d.settings.style seg.wildcardSections l) :
    c!"_gp" ∉ assigned ([linkerSym (cx.d.settings.style.secStart seg.name sec) .dot] ++ body ++ sectionSymEnd cx seg sec) := by
  refine not_mem_assigned.2 fun l hl e => ?_
  rw [groupEnd_eq cx seg sec hsy] at hl
  simp only [List.mem_append, List.mem_cons, List.mem_nil_iff, or_false] at hl
  rcases hl with (rfl | hl) | hl | rfl | rfl
  · exact absurd (Option.some.inj ((symOf_linkerSym _).symm.trans e)) name_ne
  · obtain ⟨nm, h⟩ := body_symOf (hb l hl) e
    exact absurd h name_ne
  · exact nomatch (two_aligns_lines cx.d.settings.style seg.wildcardSections (List.mem_append.2 hl)).2.2.symm.trans e
  · exact absurd (Option.some.inj ((symOf_linkerSym _).symm.trans e)) name_ne
  · exact absurd (Option.some.inj ((symOf_linkerSym _).symm.trans e)) name_ne

/-- `_gp` in the linked image: when the segment's `gp_info` is included and names this section, `_gp` holds, behind
the group's statements, the start of the group (the value of its start symbol) plus the offset, as a 32-bit value. -/
theorem group_gp_image (objs : List InSec) (cx : Ctx) (seg : Segment) (sec : Str) (hsy : cx.emitSecSyms = true)
    (body : List Line) (hb : ∀ l ∈ body, BodyLine cx.d.settings.style seg.wildcardSections l)
    (gp : GpInfo) (hgp : seg.gpInfo = some gp) (hem : shouldEmit cx.o gp.cond = true) (hsec : gp.sect = sec)
    (off : Nat) (hoff : parseHex (toHexI32 gp.offset) = some off)
    (c : Cur) (st : St) (hin : Inside c st) (k : List Line) :
    let s := c.addr + alignO (lookup sec seg.sectionsStartAlignment) (alignO seg.sectionStartAlign (st.dot - c.addr))
    lookupLast c!"_gp" (execK objs st (sectionSymStart cx seg sec ++ body ++ sectionSymEnd cx seg sec) k).syms
      = some (.num ((s + off) % M32)) := by
  intro s
  have hgl : gpLine cx seg sec = [.assign c!"_gp" (.dotPlus (toHexI32 gp.offset)) gp.provide gp.hidden false] := by
    unfold gpLine; rw [hgp]; simp [hem, hsec]
  have hre : sectionSymStart cx seg sec ++ body ++ sectionSymEnd cx seg sec
      = (alignOpt seg.sectionStartAlign ++ alignOpt (lookup sec seg.sectionsStartAlignment))
        ++ (Line.assign c!"_gp" (.dotPlus (toHexI32 gp.offset)) gp.provide gp.hidden false
        :: ([linkerSym (cx.d.settings.style.secStart seg.name sec) .dot] ++ body ++ sectionSymEnd cx seg sec)) := by
    rw [groupStart_eq cx seg sec hsy, hgl]
    simp only [List.append_assoc, List.cons_append, List.nil_append]
  rw [hre, execK_append]
  generalize (_ ++ k) = K
  obtain ⟨i2, d2⟩ := two_aligns_dot objs seg.sectionStartAlign (lookup sec seg.sectionsStartAlignment) c st hin K
  generalize execK objs st _ K = st1 at i2 d2 ⊢
  -- `_gp = . + off;` reads the location counter behind the two alignments; nothing behind it assigns `_gp`
  rw [lookup_assign_cons objs st1 _ _ _ _ _ _ k ne_dot i2.nd (gp_not_assigned_after cx seg sec hsy body hb)]
  simp [eval, hoff, d2, s]

end Ld
end Slinky
