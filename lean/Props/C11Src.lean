/-
  C11, the partial object the main script places — tied to the source text (lean/Src/Formats.lean,
  regenerated from partial_linker_writer.rs on every run).
-/
import Src.Formats
import Slinkyv.Writer
import Props.Render
namespace Slinky.C11

theorem partial_object_src (folder : Str) (seg : Segment) :
    (partialSegment folder seg).files
      = [FileInfo.newObject (pathPush folder (fmt Src.plw__add_all_segments_1 [.s seg.name]))] := by
  unfold partialSegment Src.plw__add_all_segments_1
  simp only [fmtNorm]

theorem counts_src : Src.plw__add_all_segments_count = 2 := rfl

end Slinky.C11
