/-
  C03: the `fixed_vram` literal slinky prints (`0x%08X`) is read back by the linker semantics as
  the number it was printed from.
-/
import Props.C03
namespace Slinky.C03
open Slinky Ld

theorem hexVal_digit : ∀ d, d < 16 → hexVal (Nat.digitChar d).toUpper = some d := by decide

def hexStep (acc : Option Nat) (c : Char) : Option Nat :=
  match acc, hexVal c with
  | some a, some v => some (a * 16 + v)
  | _, _ => none

theorem parseHex_eq (s : Str) (h : s ≠ []) : parseHex s = s.foldl hexStep (some 0) := by
  unfold parseHex
  simp only [h, if_false]
  rfl

theorem fold_toHex (n : Nat) : (toHex n).foldl hexStep (some 0) = some n := by
  unfold toHex
  induction n using Nat.base_induction 16 (by decide) with
  | single m hm =>
    rw [Nat.toDigits_of_lt_base hm]
    simp [hexStep, hexVal_digit m hm]
  | digit m k hk hm ih =>
    rw [← Nat.toDigits_append_toDigits (by decide) hm hk, List.map_append, List.foldl_append, ih,
      Nat.toDigits_of_lt_base hk]
    simp only [List.map_cons, List.map_nil, List.foldl_cons, List.foldl_nil, hexStep, hexVal_digit k hk]
    congr 1
    omega

theorem fold_zeros (k : Nat) : (List.replicate k '0').foldl hexStep (some 0) = some 0 := by
  induction k with
  | zero => rfl
  | succ k ih =>
    rw [List.replicate_succ, List.foldl_cons]
    have : hexStep (some 0) '0' = some 0 := by decide
    rw [this, ih]

theorem toHex_ne_nil (n : Nat) : toHex n ≠ [] := by
  unfold toHex
  intro h
  exact Nat.toDigits_ne_nil (List.map_eq_nil_iff.1 h)

theorem parseHex_toHex (n : Nat) : parseHex (toHex n) = some n := by
  rw [parseHex_eq _ (toHex_ne_nil n), fold_toHex]

/-- `{:08X}` round trip. -/
theorem parseHex_toHex8 (n : Nat) : parseHex (toHex8 n) = some n := by
  have hne : toHex8 n ≠ [] := by
    unfold toHex8
    intro h
    exact toHex_ne_nil n (List.append_eq_nil_iff.1 h).2
  rw [parseHex_eq _ hne]
  unfold toHex8
  rw [List.foldl_append, fold_zeros, fold_toHex]

/-- **the literal is read back**: `0x%08X` of `v`, as an operand of the linker semantics, is `v`
(in a state where no symbol of that spelling has been assigned — GNU ld would not lex one). -/
theorem operand_fixed_vram (st : St) (v : Nat) (hno : lookupLast (c!"0x" ++ toHex8 v) st.syms = none) :
    operand st (c!"0x" ++ toHex8 v) = some v := by
  unfold operand
  have hdot : (c!"0x" ++ toHex8 v) ≠ c!"." := by
    intro h
    have := congrArg List.head? h
    simp at this
  simp only [hdot, if_false, hno]
  unfold literal stripPrefix?
  simp [parseHex_toHex8]

/-- a segment with `fixed_vram: v` asks for `0x%08X` of `v` (`C03.header_address`), and that
request evaluates to `v`. -/
theorem fixed_vram_request (cx : Ctx) (seg : Segment) (v : Nat) (h : seg.fixedVram = some v) (st : St)
    (hno : lookupLast (c!"0x" ++ toHex8 v) st.syms = none) :
    ∃ a, segAddr cx seg = some a ∧ operand st a = some v :=
  ⟨_, by rw [header_address, h], operand_fixed_vram st v hno⟩

end Slinky.C03
