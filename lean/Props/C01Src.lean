/-
  C01, the text of an input-section statement, a pad and a linker offset — tied to the source text
  (lean/Src/Formats.lean, regenerated from linker_writer.rs `emit_file` on every run).
-/
import Src.Formats
import Slinkyv.Writer
import Props.Render
namespace Slinky.C01

/-- `("KEEP(", ")")` or `("", "")`, as `emit_file` picks them. -/
def srcKeepLeft (keep : Bool) : Str := if keep then fmt Src.lw__emit_file_4 [] else fmt Src.lw__emit_file_2 []
def srcKeepRight (keep : Bool) : Str := if keep then fmt Src.lw__emit_file_5 [] else fmt Src.lw__emit_file_3 []
/-- `if segment.wildcard_sections { "*" } else { "" }`. -/
def srcWildcard (wild : Bool) : Str := if wild then fmt Src.lw__emit_file_0 [] else fmt Src.lw__emit_file_1 []

theorem object_statement_src (keep wild : Bool) (path sec : Str) :
    (Line.input keep path none sec wild).renderBody
      = fmt Src.lw__emit_file_12 [.s (srcKeepLeft keep), .s path, .s sec, .s (srcWildcard wild), .s (srcKeepRight keep)] := by
  unfold Line.renderBody srcKeepLeft srcKeepRight srcWildcard Src.lw__emit_file_12 Src.lw__emit_file_0
    Src.lw__emit_file_1 Src.lw__emit_file_2 Src.lw__emit_file_3 Src.lw__emit_file_4 Src.lw__emit_file_5
  simp only [fmtNorm]

theorem archive_statement_src (keep wild : Bool) (path member sec : Str) :
    (Line.input keep path (some member) sec wild).renderBody
      = fmt Src.lw__emit_file_13 [.s (srcKeepLeft keep), .s path, .s member, .s sec, .s (srcWildcard wild), .s (srcKeepRight keep)] := by
  unfold Line.renderBody srcKeepLeft srcKeepRight srcWildcard Src.lw__emit_file_13 Src.lw__emit_file_0
    Src.lw__emit_file_1 Src.lw__emit_file_2 Src.lw__emit_file_3 Src.lw__emit_file_4 Src.lw__emit_file_5
  simp only [fmtNorm]

/-- the three `KeepSections` arms of `emit_file` use the same two pairs of literals. -/
theorem keep_arms_src : Src.lw__emit_file_2 = Src.lw__emit_file_6 ∧ Src.lw__emit_file_3 = Src.lw__emit_file_7
    ∧ Src.lw__emit_file_4 = Src.lw__emit_file_8 ∧ Src.lw__emit_file_5 = Src.lw__emit_file_9
    ∧ Src.lw__emit_file_2 = Src.lw__emit_file_10 ∧ Src.lw__emit_file_3 = Src.lw__emit_file_11 :=
  ⟨rfl, rfl, rfl, rfl, rfl, rfl⟩

theorem pad_src (amount : Nat) :
    (Line.addAssign c!"." (.hex amount)).renderBody = fmt Src.lw__emit_file_14 [.n amount] := by
  unfold Line.renderBody Expr.render Src.lw__emit_file_14
  simp only [fmtNorm]
  rfl

theorem linker_offset_src (name : Str) :
    (linkerSym name .dot).renderBody = fmt Src.sb__write_symbol_assignment_3 [.s name, .s (fmt Src.lw__emit_file_15 [])] := by
  unfold linkerSym Line.renderBody Expr.render Src.sb__write_symbol_assignment_3 Src.lw__emit_file_15
  simp only [fmtNorm]

theorem counts_src : Src.lw__emit_file_count = 16 := rfl

end Slinky.C01
