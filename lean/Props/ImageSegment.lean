/-
  The linker semantics applied to one output section of a segment (`write_segment`): where it opens, what it places,
  how it is recorded when it closes (`section_core`, `section_run`), and that it leaves the ROM counter alone.
-/
import Props.ImageGroup
import Props.WriterInv
namespace Slinky
namespace Ld
open W

/-- the link is between output sections: none is open, and it is not inside `/DISCARD/`. -/
structure Outside (st : St) : Prop where
  cur : st.cur = none
  nd : st.inDiscard = false

theorem Outside.setSym {st : St} (ho : Outside st) (s : Str) (v : Val) : Outside (setSym st s v) := ⟨ho.cur, ho.nd⟩

/-- a symbol assignment or an empty line between output sections. -/
inductive OuterLine : Line → Prop
  | blank : OuterLine .blank
  | sym (s : Str) (e : Expr) (p h lk : Bool) (hs : s ≠ c!".") : OuterLine (.assign s e p h lk)

theorem OuterLine.simple {l : Line} (h : OuterLine l) : simple l = true := by
  cases h <;> rfl

theorem step_outer (objs : List InSec) (l : Line) (hl : OuterLine l) (st : St) (ho : Outside st) (r : List Line) :
    Outside (step objs st l r) ∧ (step objs st l r).dot = st.dot ∧ (step objs st l r).secs = st.secs ∧
      (step objs st l r).placed = st.placed := by
  cases hl with
  | blank => simp only [step]; exact ⟨ho, trivial, trivial, trivial⟩
  | sym s e p h lk hs =>
    rw [step_assign_sym objs hs ho.nd]
    exact ⟨⟨ho.cur, ho.nd⟩, rfl, rfl, rfl⟩

theorem run_outer (objs : List InSec) : ∀ (ls : List Line) (_ : ∀ l ∈ ls, OuterLine l) (st : St) (_ : Outside st) (k : List Line),
    Outside (execK objs st ls k) ∧ (execK objs st ls k).dot = st.dot ∧ (execK objs st ls k).secs = st.secs ∧
      (execK objs st ls k).placed = st.placed := by
  intro ls hall st ho k
  exact execK_rel objs (R := fun a b => Outside a → Outside b ∧ b.dot = a.dot ∧ b.secs = a.secs ∧ b.placed = a.placed)
    (fun _ h => ⟨h, rfl, rfl, rfl⟩)
    (fun h1 h2 h => by
      obtain ⟨o1, d1, s1, p1⟩ := h1 h
      obtain ⟨o2, d2, s2, p2⟩ := h2 o1
      exact ⟨o2, d2.trans d1, s2.trans s1, p2.trans p1⟩)
    (fun st l r hl h => step_outer objs l hl st h r) ls st k hall ho

theorem run_outer_keeps (objs : List InSec) (n : Str) : ∀ (ls : List Line) (_ : ∀ l ∈ ls, OuterLine l)
    (_ : ∀ l ∈ ls, symOf l ≠ some n) (st : St) (_ : Outside st) (k : List Line),
    lookupLast n (execK objs st ls k).syms = lookupLast n st.syms :=
  fun ls _ hno st _ k => execK_keeps objs n ls st k hno

theorem kindStart_outer (cx : Ctx) (seg : Segment) (noload : Bool) : ∀ l ∈ kindStart cx seg noload, OuterLine l := by
  intro l hl
  unfold kindStart at hl
  split at hl
  · simp at hl
    rcases hl with rfl | rfl
    · exact .sym _ _ _ _ _ ne_dot
    · exact .blank
  · simp at hl

theorem kindEnd_outer (cx : Ctx) (seg : Segment) (noload : Bool) : ∀ l ∈ kindEnd cx seg noload, OuterLine l := by
  intro l hl
  unfold kindEnd at hl
  split at hl
  · simp [symEndSize] at hl
    rcases hl with rfl | rfl | rfl
    · exact .blank
    · exact .sym _ _ _ _ _ ne_dot
    · exact .sym _ _ _ _ _ ne_dot
  · simp at hl

theorem assigned_kindStart (cx : Ctx) (seg : Segment) (nl : Bool) :
    assigned (kindStart cx seg nl) = if cx.emitKindSyms then [cx.d.settings.style.segVramStart (kindName seg nl)] else [] := by
  unfold kindStart
  split
  · simp only [assigned_cons, symOf_linkerSym, symOf_blank]; rfl
  · rfl

theorem assigned_kindEnd (cx : Ctx) (seg : Segment) (nl : Bool) :
    assigned (kindEnd cx seg nl) = if cx.emitKindSyms then
      [cx.d.settings.style.segVramEnd (kindName seg nl), cx.d.settings.style.segVramSize (kindName seg nl)] else [] := by
  unfold kindEnd
  split
  · simp only [assigned_cons, symEndSize, symOf_linkerSym, symOf_blank]; rfl
  · rfl

/-- shape of one output section of a segment (multi-segment and main partial scripts): kind start symbol, header, `{`,
optional `FILL`, inner lines, `}`, kind end symbols. -/
theorem _root_.Slinky.W.writeSegment_shape (cx : Ctx) (seg : Segment) (secs : List Str) (noload : Bool) (ls : List Line)
    (h : writeSegment cx seg secs noload = .ok ls) :
    ∃ body, ls = segmentStart cx seg noload
        ++ (match seg.fillValue with | some v => [.fill v] | none => [])
        ++ body ++ [.blockClose] ++ kindEnd cx seg noload ∧
      ∀ l ∈ body, InnerLine cx.d.settings.style seg.wildcardSections l := by
  obtain ⟨body, hb, rfl⟩ := writeSegment_ok.1 h
  exact ⟨body, rfl, sectionLoop_inner hb⟩

theorem assigned_writeSegment {cx : Ctx} {seg : Segment} {secs : List Str} {nl : Bool} {ls : List Line}
    (h : writeSegment cx seg secs nl = .ok ls) :
    ∃ body, sectionLoop (groupE cx seg secs) secs = .ok body ∧
      assigned ls = assigned (kindStart cx seg nl) ++ assigned body ++ assigned (kindEnd cx seg nl) := by
  obtain ⟨body, hb, rfl⟩ := writeSegment_ok.1 h
  refine ⟨body, hb, ?_⟩
  have hf : assigned (fillLines seg) = [] := by rcases fillLines_cases seg with e | ⟨v, e⟩ <;> rw [e] <;> rfl
  have hh : ∀ (n : Str) (b : Bool) (a r : Option Str) (s : Option Nat), assigned [.outHdr n b a r s, .blockOpen] = [] := fun _ _ _ _ _ => rfl
  have hc : assigned [Line.blockClose] = [] := rfl
  simp only [segmentStart, assigned_append, hf, hc, List.append_nil]
  cases nl <;> simp only [hh, Bool.false_eq_true, if_false, if_true, List.append_nil]

theorem maxAlign_ge (sub : Option Nat) (l : List InSec) : 1 ≤ maxAlign sub l := by
  unfold maxAlign
  suffices h : ∀ (m : Nat), 1 ≤ m → 1 ≤ l.foldl (fun m i => max m (max i.align (effAlign sub i))) m from h 1 (Nat.le_refl 1)
  induction l with
  | nil => intro m hm; exact hm
  | cons i rest ih => intro m hm; exact ih _ (Nat.le_trans hm (Nat.le_max_left _ _))

theorem blockBody_prefix : ∀ (a b : List Line), (∀ l ∈ a, l ≠ .blockClose) → blockBody (a ++ .blockClose :: b) = a := by
  intro a
  induction a with
  | nil => intro b _; simp [blockBody]
  | cons x xs ih =>
    intro b h
    rw [List.cons_append, blockBody, ih b (fun l hl => h l (List.mem_cons_of_mem _ hl))]
    exact h x List.mem_cons_self

theorem hasSymbol_of_mem (body : List Line) (l : Line) (hl : l ∈ body) (hs : (symOf l).isSome) : hasSymbol body = true := by
  unfold hasSymbol
  rw [List.any_eq_true]
  refine ⟨l, hl, ?_⟩
  cases l <;> simp_all [symOf]

/-- the core of `section_run`, for any lines of the shape
`outer symbols; header; {; (nothing that acts); inner statements; }; outer symbols`. -/
theorem section_core (objs : List InSec) (sty : Style) (wild : Bool) (ks ke fill body : List Line)
    (name : Str) (nl : Bool) (addr lma : Option Str) (sub : Option Nat)
    (hks : ∀ l ∈ ks, OuterLine l) (hke : ∀ l ∈ ke, OuterLine l)
    (hfill : ∀ (s : St) (kk : List Line), execK objs s fill kk = s)
    (hbody : ∀ l ∈ body, InnerLine sty wild l) (st : St) (ho : Outside st) (k : List Line) :
    ∃ (start end_ al : Nat) (new : List Placed) (st' : St),
      st' = execK objs st (ks ++ [Line.outHdr name nl addr lma sub, Line.blockOpen] ++ fill ++ body ++ [Line.blockClose] ++ ke) k ∧
      1 ≤ al ∧
      (∀ a, addr = some a → ∃ st₁ : St, st₁.dot = st.dot ∧ st₁.secs = st.secs ∧
        (∀ n, (∀ l ∈ ks, symOf l ≠ some n) → lookupLast n st₁.syms = lookupLast n st.syms) ∧
        start = (operand st₁ a).getD st.dot) ∧
      (addr = none → start = Ld.alignUp st.dot al) ∧
      start ≤ end_ ∧ Outside st' ∧
      st'.placed = st.placed ++ new ∧ chainOk name start new end_ ∧ alignedAll sub new ∧
      ((st'.dot = end_ ∧ ∃ lmaV, st'.secs = st.secs ++ [⟨name, start, end_ - start, lmaV, nl, al⟩]) ∨
       (end_ = start ∧ st'.dot = st.dot ∧ st'.secs = st.secs ∧
        ¬ ((∀ l ∈ fill, l ≠ Line.blockClose) ∧ ∃ l ∈ body, (symOf l).isSome))) ∧
      (∀ n, (∀ l ∈ ks, symOf l ≠ some n) → (∀ l ∈ body, symOf l ≠ some n) → (∀ l ∈ ke, symOf l ≠ some n) →
        lookupLast n st'.syms = lookupLast n st.syms) := by
  have e1 : execK objs st (ks ++ [Line.outHdr name nl addr lma sub, Line.blockOpen] ++ fill ++ body ++ [Line.blockClose] ++ ke) k
      = execK objs (execK objs (execK objs (execK objs (execK objs st ks
            ([Line.outHdr name nl addr lma sub, Line.blockOpen] ++ (fill ++ (body ++ ([Line.blockClose] ++ (ke ++ k))))))
          [Line.outHdr name nl addr lma sub, Line.blockOpen] (fill ++ (body ++ ([Line.blockClose] ++ (ke ++ k)))))
          body ([Line.blockClose] ++ (ke ++ k))) [Line.blockClose] (ke ++ k)) ke k := by
    simp only [execK_append, List.append_assoc, hfill]
  rw [e1]
  clear e1
  -- only the header looks at what follows, and only as far as the closing brace
  generalize [Line.outHdr name nl addr lma sub, Line.blockOpen] ++ (fill ++ (body ++ ([Line.blockClose] ++ (ke ++ k)))) = K1
  generalize ke ++ k = K4
  obtain ⟨o1, d1, s1, p1⟩ := run_outer objs ks hks st ho K1
  have k1 := fun n => execK_keeps objs n ks st K1
  generalize execK objs st ks K1 = st1 at o1 d1 s1 p1 k1 ⊢
  -- the header: a section with a symbol inside is never removed
  obtain ⟨al, hal, keep, hkept, e2⟩ : ∃ al, 1 ≤ al ∧ ∃ keep,
      ((∀ l ∈ fill, l ≠ Line.blockClose) → (∃ l ∈ body, (symOf l).isSome) → keep = true) ∧
      execK objs st1 [Line.outHdr name nl addr lma sub, Line.blockOpen] (fill ++ (body ++ ([Line.blockClose] ++ K4)))
        = { st1 with dot := hdrStart st1 addr al,
                     cur := some ⟨name, hdrStart st1 addr al, lma.bind (operand st1), nl, sub, al, st1.dot, keep⟩ } := by
    refine ⟨_, maxAlign_ge sub _, _, fun hf ⟨l, hl, hs⟩ => ?_, rfl⟩
    have : [Line.blockOpen] ++ (fill ++ (body ++ ([Line.blockClose] ++ K4)))
        = (Line.blockOpen :: (fill ++ body)) ++ Line.blockClose :: K4 := by simp
    rw [this, blockBody_prefix _ _ (by
      intro x hx
      rcases List.mem_cons.1 hx with rfl | hx
      · exact fun h => nomatch h
      · rcases List.mem_append.1 hx with hx | hx
        · exact hf x hx
        · exact (inner_ne (hbody x hx)).1)]
    exact hasSymbol_of_mem _ l (List.mem_cons_of_mem _ (List.mem_append_right _ hl)) hs
  rw [e2]
  clear e2
  generalize hstart : hdrStart st1 addr al = start
  have hstartA : ∀ a, addr = some a → ∃ st₁ : St, st₁.dot = st.dot ∧ st₁.secs = st.secs ∧
      (∀ n, (∀ l ∈ ks, symOf l ≠ some n) → lookupLast n st₁.syms = lookupLast n st.syms) ∧
      start = (operand st₁ a).getD st.dot := by
    rintro a rfl
    refine ⟨st1, d1, s1, k1, ?_⟩
    rw [← hstart, hdrStart, d1]
    cases operand st1 a <;> rfl
  have hstartN : addr = none → start = Ld.alignUp st.dot al := by
    rintro rfl
    rw [← hstart, hdrStart, d1]
  clear hstart
  generalize hc : (⟨name, start, lma.bind (operand st1), nl, sub, al, st1.dot, keep⟩ : Cur) = c
  have a3 := run_inner objs sty wild c body hbody { st1 with dot := start, cur := some c } ⟨rfl, by rw [← hc]; exact Nat.le_refl _, o1.nd⟩
    ([Line.blockClose] ++ K4)
  have k3 := fun n => execK_keeps objs n body { st1 with dot := start, cur := some c } ([Line.blockClose] ++ K4)
  generalize execK objs { st1 with dot := start, cur := some c } body ([Line.blockClose] ++ K4) = st3 at a3 k3 ⊢
  obtain ⟨new, hnew, hchain, halg⟩ := a3.placed
  -- the closing brace: the section is recorded, or removed when it is empty and holds no symbol
  obtain ⟨st4, e4, o4, y4, p4, hcl⟩ : ∃ st4, execK objs st3 [Line.blockClose] K4 = st4 ∧ Outside st4 ∧ st4.syms = st3.syms ∧
      st4.placed = st3.placed ∧ ((st4.dot = st3.dot ∧ st4.secs = st3.secs ++ [closedSec c st3.dot]) ∨
        (c.keep = false ∧ st3.dot = c.addr ∧ st4.dot = c.dot0 ∧ st4.secs = st3.secs)) := by
    simp only [execK, step, a3.inside.cur]
    split
    · rename_i hrm
      simp only [Bool.and_eq_true, Bool.not_eq_true', decide_eq_true_eq] at hrm
      exact ⟨_, rfl, ⟨rfl, a3.inside.nd⟩, rfl, rfl, .inr ⟨hrm.1, hrm.2, rfl, rfl⟩⟩
    · exact ⟨_, rfl, ⟨rfl, a3.inside.nd⟩, rfl, rfl, .inl ⟨rfl, rfl⟩⟩
  rw [e4]
  clear e4
  obtain ⟨o5, d5, s5, p5⟩ := run_outer objs ke hke st4 o4 k
  have k5 := fun n => execK_keeps objs n ke st4 k
  generalize execK objs st4 ke k = st5 at o5 d5 s5 p5 k5 ⊢
  have hsyms : ∀ n, (∀ l ∈ ks, symOf l ≠ some n) → (∀ l ∈ body, symOf l ≠ some n) → (∀ l ∈ ke, symOf l ≠ some n) →
      lookupLast n st5.syms = lookupLast n st.syms :=
    fun n h1 h2 h3 => by rw [k5 n h3, y4, k3 n h2]; exact k1 n h1
  have hplaced : st5.placed = st.placed ++ new := by rw [p5, p4, hnew, ← p1]
  subst hc
  rcases hcl with ⟨d4, s4⟩ | ⟨hk, hd3, d4, s4⟩
  · exact ⟨start, st3.dot, al, new, st5, rfl, hal, hstartA, hstartN, a3.mono, o5, hplaced, hchain, halg,
      .inl ⟨d5.trans d4, lma.bind (operand st1), by rw [s5, s4, a3.secs, ← s1]; rfl⟩, hsyms⟩
  · rw [hd3] at hchain
    refine ⟨start, start, al, new, st5, rfl, hal, hstartA, hstartN, Nat.le_refl _, o5, hplaced, hchain, halg,
      .inr ⟨rfl, (d5.trans d4).trans d1, by rw [s5, s4, a3.secs, ← s1], fun ⟨hf, hex⟩ => ?_⟩, hsyms⟩
    exact absurd (hk.symm.trans (hkept hf hex)) (fun h => nomatch h)

theorem sectionLoop_symbol {cx : Ctx} {seg : Segment} {secs : List Str} {body : List Line}
    (h : sectionLoop (groupE cx seg secs) secs = .ok body) (hne : secs ≠ []) (hsy : cx.emitSecSyms = true) :
    ∃ l ∈ body, (symOf l).isSome := by
  cases secs with
  | nil => exact absurd rfl hne
  | cons a rest =>
    obtain ⟨P, g, Q, hg, rfl⟩ := sectionLoop_split _ [] a rest body h
    obtain ⟨b, _, rfl⟩ := groupE_ok.1 hg
    refine ⟨linkerSym (cx.d.settings.style.secStart seg.name a) .dot,
      List.mem_append_left _ (List.mem_append_right _ ?_), by rw [symOf_linkerSym]; rfl⟩
    rw [C05.groupOf, groupStart_eq cx seg a hsy]
    simp only [List.mem_append, List.mem_cons, true_or, or_true]

/-- what the link has done behind one output section of a segment that it reached in `st`: `st'` is the state
behind its statements, `[start, end_)` the output section, `al` the alignment of its contents, `new` what it placed. -/
structure SecImage (cx : Ctx) (seg : Segment) (secs : List Str) (noload : Bool) (st st' : St) (start end_ al : Nat)
    (new : List Placed) : Prop where
  al_pos : 1 ≤ al
  /-- the address expression is evaluated in a state `st₁` that differs from `st` in the kind start symbol. -/
  addr : ∀ a, (if noload then none else segAddr cx seg) = some a → ∃ st₁ : St, st₁.dot = st.dot ∧ st₁.secs = st.secs ∧
    (∀ n, (∀ l ∈ kindStart cx seg noload, symOf l ≠ some n) → lookupLast n st₁.syms = lookupLast n st.syms) ∧
    start = (operand st₁ a).getD st.dot
  noaddr : (if noload then none else segAddr cx seg) = none → start = Ld.alignUp st.dot al
  le : start ≤ end_
  outside : Outside st'
  placed : st'.placed = st.placed ++ new
  chain : chainOk (if noload then c!"." ++ seg.name ++ c!".noload" else c!"." ++ seg.name) start new end_
  aligned : alignedAll seg.subalign new
  /-- the section is recorded, or — only without a configured section or without section symbols — removed. -/
  closed : (st'.dot = end_ ∧ ∃ lmaV, st'.secs = st.secs ++
      [⟨if noload then c!"." ++ seg.name ++ c!".noload" else c!"." ++ seg.name, start, end_ - start, lmaV, noload, al⟩]) ∨
    (end_ = start ∧ st'.dot = st.dot ∧ st'.secs = st.secs ∧ ¬ (secs ≠ [] ∧ cx.emitSecSyms = true))

theorem section_run (objs : List InSec) (cx : Ctx) (seg : Segment) (secs : List Str) (noload : Bool) (ls : List Line)
    (h : writeSegment cx seg secs noload = .ok ls) (st : St) (ho : Outside st) (k : List Line) :
    ∃ (start end_ al : Nat) (new : List Placed), SecImage cx seg secs noload st (execK objs st ls k) start end_ al new := by
  obtain ⟨body, hb, rfl⟩ := writeSegment_ok.1 h
  obtain ⟨hfillno, hfillnc⟩ : (∀ (s : St) (kk : List Line), execK objs s (fillLines seg) kk = s) ∧
      ∀ l ∈ fillLines seg, l ≠ Line.blockClose := by
    rcases fillLines_cases seg with e | ⟨v, e⟩ <;> rw [e]
    · exact ⟨fun _ _ => rfl, fun _ h => nomatch h⟩
    · exact ⟨fun _ _ => rfl, fun l hl => by rw [List.mem_singleton.1 hl]; exact fun h => nomatch h⟩
  have hform : segmentStart cx seg noload ++ fillLines seg ++ body ++ [Line.blockClose] ++ kindEnd cx seg noload
      = kindStart cx seg noload ++ [Line.outHdr (if noload then c!"." ++ seg.name ++ c!".noload" else c!"." ++ seg.name) noload
          (if noload then none else segAddr cx seg)
          (if noload then none else some (cx.d.settings.style.segRomStart seg.name)) seg.subalign, Line.blockOpen]
        ++ fillLines seg ++ body ++ [Line.blockClose] ++ kindEnd cx seg noload := by
    cases noload <;> simp only [segmentStart, Bool.false_eq_true, if_false, if_true, List.append_assoc]
  obtain ⟨start, end_, al, new, st', h1, h2, h3, h4, h5, h6, h7, h8, h9, h10, _⟩ :=
    section_core objs cx.d.settings.style seg.wildcardSections (kindStart cx seg noload) (kindEnd cx seg noload)
      (fillLines seg) body _ noload _ _ seg.subalign
      (kindStart_outer cx seg noload) (kindEnd_outer cx seg noload) hfillno (sectionLoop_inner hb) st ho k
  rw [hform, ← h1]
  exact ⟨start, end_, al, new, h2, h3, h4, h5, h6, h7, h8, h9, h10.imp id fun x =>
    ⟨x.1, x.2.1, x.2.2.1, fun hh => x.2.2.2 ⟨hfillnc, sectionLoop_symbol hb hh.1 hh.2⟩⟩⟩

theorem SecImage.kept {cx : Ctx} {seg : Segment} {secs : List Str} {noload : Bool} {st st' : St} {start end_ al : Nat}
    {new : List Placed} (h : SecImage cx seg secs noload st st' start end_ al new) (hne : secs ≠ []) (hsy : cx.emitSecSyms = true) :
    st'.dot = end_ ∧ ∃ lmaV, st'.secs = st.secs ++
      [⟨if noload then c!"." ++ seg.name ++ c!".noload" else c!"." ++ seg.name, start, end_ - start, lmaV, noload, al⟩] :=
  h.closed.resolve_right fun x => x.2.2.2 ⟨hne, hsy⟩

/-- the state of the link behind one output section of a segment (`section_run` as a tuple): the section opens at the requested
address — the value of the address expression where the header gives one, otherwise the location counter rounded up
to an alignment `al ≥ 1` —, everything its statements place lies in it, in order and without overlap, and when it
closes it is recorded with that address and the size `end_ - start` (unless it is empty and holds no symbol: then ld
removes it and the location counter is what it was). -/
theorem section_image (objs : List InSec) (cx : Ctx) (seg : Segment) (secs : List Str) (noload : Bool) (ls : List Line)
    (h : writeSegment cx seg secs noload = .ok ls) (st : St) (ho : Outside st) (k : List Line) :
    ∃ (start end_ al : Nat) (new : List Placed) (st' : St) (name : Str) (addr : Option Str),
      st' = execK objs st ls k ∧
      name = (if noload then c!"." ++ seg.name ++ c!".noload" else c!"." ++ seg.name) ∧
      addr = (if noload then none else segAddr cx seg) ∧
      1 ≤ al ∧
      (∀ a, addr = some a → ∃ st₁ : St, st₁.dot = st.dot ∧ st₁.secs = st.secs ∧
        (∀ n, (∀ l ∈ kindStart cx seg noload, symOf l ≠ some n) → lookupLast n st₁.syms = lookupLast n st.syms) ∧
        start = (operand st₁ a).getD st.dot) ∧
      (addr = none → start = Ld.alignUp st.dot al) ∧
      start ≤ end_ ∧ Outside st' ∧
      st'.placed = st.placed ++ new ∧ chainOk name start new end_ ∧ alignedAll seg.subalign new ∧
      ((st'.dot = end_ ∧ ∃ lmaV, st'.secs = st.secs ++ [⟨name, start, end_ - start, lmaV, noload, al⟩]) ∨
       (end_ = start ∧ st'.dot = st.dot ∧ st'.secs = st.secs)) := by
  obtain ⟨start, end_, al, new, h⟩ := section_run objs cx seg secs noload ls h st ho k
  exact ⟨start, end_, al, new, _, _, _, rfl, rfl, rfl, h.al_pos, h.addr, h.noaddr, h.le, h.outside, h.placed, h.chain, h.aligned,
    h.closed.imp id fun x => ⟨x.1, x.2.1, x.2.2.1⟩⟩

theorem ne_romPos {s : Str} (h : endsOk s) : s ≠ romPos := endsOk_ne s romPos h (by decide)

theorem inner_not_romPos (sty : Style) (wild : Bool) (l : Line) (h : InnerLine sty wild l) : symOf l ≠ some romPos := by
  have ok : ∀ (s : Str) (e : Expr), endsOk s → symOf (linkerSym s e) ≠ some romPos := fun s e hs => by
    rw [linkerSym, symOf, if_neg (endsOk_ne_dot _ hs)]; exact fun h => ne_romPos hs (Option.some.inj h)
  cases h with
  | body hb =>
    cases hb with
    | input k p m s => exact fun h => nomatch h
    | pad n => exact fun h => nomatch h
    | offset nm => exact ok _ _ IsName.endsOk
  | blank => exact fun h => nomatch h
  | alignDot a => exact fun h => nomatch h
  | gp off p h => rw [symOf_assign]; exact fun h => absurd (Option.some.inj h) name_ne
  | symDot s hs => exact ok _ _ hs
  | symSize s a b hs => exact ok _ _ hs

theorem section_image_rom (objs : List InSec) (cx : Ctx) (seg : Segment) (secs : List Str) (noload : Bool) (ls : List Line)
    (h : writeSegment cx seg secs noload = .ok ls) (st : St) (ho : Outside st) (k : List Line) :
    lookupLast romPos (execK objs st ls k).syms = lookupLast romPos st.syms := by
  refine execK_keeps_assigned objs ?_ st k
  obtain ⟨body, hb, he⟩ := assigned_writeSegment h
  rw [he, assigned_kindStart, assigned_kindEnd]
  simp only [List.mem_append, not_or]
  refine ⟨⟨?_, not_mem_assigned.2 fun l hl => inner_not_romPos _ _ l (sectionLoop_inner hb l hl)⟩, ?_⟩
  · split
    · exact fun h => absurd (List.mem_singleton.1 h) name_ne
    · exact fun h => nomatch h
  · split
    · simp only [List.mem_cons, List.mem_nil_iff, or_false, not_or]
      exact ⟨name_ne, name_ne⟩
    · exact fun h => nomatch h

end Ld
end Slinky
