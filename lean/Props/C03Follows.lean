/-
  C03 in the image `Ld.link` returns: a segment whose address is a *symbol* — `follows_segment` (the VRAM end symbol
  of the followed segment) or `fixed_symbol` — has its output section recorded at the value that symbol holds when the
  header is reached (`segment_operand_addr`). For `follows_segment` naming an emitted segment listed *earlier* that is
  the symbol's value in the image: the script assigns the name once, in front (`cut_once_front`), so
  `Ld.execK_keeps_count` carries the value to the header and to the end of the script. A `fixed_symbol` the script
  never assigns holds at the header what `--defsym` gave it (`Ld.MainCut.defsym`).
-/
import Props.C03Final
import Props.C03Vram
namespace Slinky.C03
open Slinky W Ld

theorem addSegments_split (cx : Ctx) : ∀ (pre : List Segment) (seg : Segment) (post : List Segment) (em : List Str)
    (ls : List Line) (em' : List Str) (_ : addSegments cx em (pre ++ seg :: post) = .ok (ls, em')),
    ∃ lsPre em1 lsSeg em2 lsPost,
      addSegments cx em pre = .ok (lsPre, em1) ∧ addSegment cx em1 seg = .ok (lsSeg, em2)
      ∧ addSegments cx em2 post = .ok (lsPost, em') ∧ ls = lsPre ++ (lsSeg ++ lsPost) := by
  intro pre seg post em ls em' h
  obtain ⟨lsPre, em1, _, hpre, hrest, rfl⟩ := addSegments_append_ok.1 h
  obtain ⟨lsSeg, em2, lsPost, hseg, hpost, rfl⟩ := addSegments_cons_ok.1 hrest
  exact ⟨lsPre, em1, lsSeg, em2, lsPost, hpre, hseg, hpost, rfl⟩

theorem segment_sym_addr (objs : List InSec) (cx : Ctx) (hsy : cx.emitSecSyms = true) (em : List Str) (seg : Segment)
    (lsSeg : List Line) (em' : List Str) (hadd : addSegment cx em seg = .ok (lsSeg, em'))
    (hinc : shouldEmit cx.o seg.cond = true) (hne : seg.allocSections ≠ [])
    (st : St) (ho : Outside st) (r : Nat) (hr : lookupLast romPos st.syms = some (.num r)) (k : List Line)
    (a : Str) (ha : segAddr cx seg = some a) (hdot : a ≠ c!".") (hrom : a ≠ romPos)
    (x : Nat) (hx : lookupLast a st.syms = some (.num x)) (hcnt : assignCount a lsSeg = 0) :
    ∃ os ∈ (execK objs st lsSeg k).secs, os.name = c!"." ++ seg.name ∧ os.addr = x ∧ os.noload = false :=
  segment_operand_addr objs cx hsy hadd hinc hne st ⟨ho, r, hr⟩ k a ha hcnt x
    (fun st₁ e => operand_num st₁ a x hdot (e.trans hx))

theorem follows_segment_main (objs : List InSec) {cx : Ctx} {segs : List Segment} {script : List Line}
    (hS : MainScript cx segs script) (defsyms : List (Str × Nat))
    (pre post : List Segment) (seg f : Segment) (hsplit : segs = pre ++ seg :: post)
    (hf : f ∈ pre) (hfinc : shouldEmit cx.o f.cond = true) (hinc : shouldEmit cx.o seg.cond = true)
    (hfv : seg.fixedVram = none) (hfs : seg.fixedSymbol = none) (hfol : seg.followsSegment = some f.name)
    (hcnt : assignCount (cx.d.settings.style.segVramEnd f.name) script ≤ 1) :
    ∃ os ∈ (link objs defsyms script).secs, os.name = c!"." ++ seg.name ∧ os.noload = false ∧
      (link objs defsyms script).sym (cx.d.settings.style.segVramEnd f.name) = some os.addr := by
  obtain ⟨c⟩ := hS.cut objs defsyms pre seg post hsplit
  have hsa : segAddr cx seg = some (cx.d.settings.style.segVramEnd f.name) := by unfold segAddr; simp [hfv, hfs, hfol]
  -- behind the segments in front the VRAM end symbol of `f` holds a number: the script assigns it once, there
  obtain ⟨r1, hr1⟩ := c.start.rom
  obtain ⟨zs, _, _, rfl, _, _, hz, hfact⟩ := segments_vram_end objs cx hS.syms pre [] c.lsPre c.em1 c.hpre
    c.allocPre c.st1 c.start.out r1 hr1 (c.lsSeg ++ c.R)
  obtain ⟨z, hzm, rfl⟩ : ∃ z ∈ zs, z.1 = f := List.mem_map.1 (hz ▸ List.mem_filter.2 ⟨hf, by simpa using hfinc⟩)
  obtain ⟨_, _, _, hx, hpos⟩ := hfact z hzm
  obtain ⟨h1, h2, h3⟩ := cut_once_front c hcnt hpos
  have hadot : cx.d.settings.style.segVramEnd z.1.name ≠ c!"." := ne_dot
  generalize cx.d.settings.style.segVramEnd z.1.name = a at *
  replace hx := hx h1
  obtain ⟨os, hos, g1, g2, g3⟩ := segment_operand_addr objs cx hS.syms c.hseg hinc
    (c.allocSeg hinc) _ c.reached c.R a hsa h2 _
    (fun st₁ e => operand_num st₁ a _ hadot (e.trans hx))
  refine ⟨os, by rw [c.image]; exact image_sec_kept objs _ c.R os hos, g1, g3, ?_⟩
  rw [c.image, g2]
  exact image_sym_kept objs _ c.R a _ h3 ((execK_keeps_count objs a c.lsSeg _ _ h2).trans hx)

/-- **C03 in the linked image, for the whole ordinary script: `follows_segment`.** An emitted segment whose
`follows_segment` names an emitted segment `f` listed before it has `.<segment>` recorded at the value of `f`'s VRAM
end symbol in that image, when the script assigns that symbol once. -/
theorem final_follows_segment (objs : List InSec) (d : Document) (o : Opts) (vc : Bool) (script : List Line)
    (hmulti : d.settings.singleSegmentMode = false)
    (h : generateNormal d o vc = .ok script)
    (hall : ∀ s ∈ d.segments, shouldEmit o s.cond = true → s.allocSections ≠ [])
    (defsyms : List (Str × Nat))
    (pre post : List Segment) (seg f : Segment) (hsplit : d.segments = pre ++ seg :: post)
    (hf : f ∈ pre) (hfinc : shouldEmit o f.cond = true) (hinc : shouldEmit o seg.cond = true)
    (hfv : seg.fixedVram = none) (hfs : seg.fixedSymbol = none) (hfol : seg.followsSegment = some f.name)
    (hcnt : assignCount (d.settings.style.segVramEnd f.name) script ≤ 1) :
    ∃ os ∈ (link objs defsyms script).secs, os.name = c!"." ++ seg.name ∧ os.noload = false ∧
      (link objs defsyms script).sym (d.settings.style.segVramEnd f.name) = some os.addr :=
  follows_segment_main objs (MainScript.normal d o vc script hmulti h hall) defsyms pre post seg f hsplit hf hfinc hinc
    hfv hfs hfol hcnt

/-- `final_follows_segment` for the main script of partial mode. -/
theorem final_follows_segment_partial (objs : List InSec) (d : Document) (o : Opts) (vc : Bool) (out : PartialOut)
    (h : generatePartial d o vc = .ok out)
    (hall : ∀ s ∈ d.segments, shouldEmit o s.cond = true → s.allocSections ≠ [])
    (defsyms : List (Str × Nat)) (folder : Str) (hfolder : d.settings.partialBuildSegmentsFolder = some folder)
    (pre post : List Segment) (seg f : Segment) (hsplit : partialSegs d o folder = pre ++ seg :: post) (hf : f ∈ pre)
    (hfv : seg.fixedVram = none) (hfs : seg.fixedSymbol = none) (hfol : seg.followsSegment = some f.name)
    (hcnt : assignCount (d.settings.style.segVramEnd f.name) out.main ≤ 1) :
    ∃ os ∈ (link objs defsyms out.main).secs, os.name = c!"." ++ seg.name ∧ os.noload = false ∧
      (link objs defsyms out.main).sym (d.settings.style.segVramEnd f.name) = some os.addr :=
  have hmem : ∀ s ∈ pre ++ seg :: post, shouldEmit o s.cond = true := fun s hs => partialSegs_emitted d o folder s (hsplit ▸ hs)
  follows_segment_main objs (MainScript.partial d o vc out h hall folder hfolder) defsyms pre post seg f hsplit hf
    (hmem f (List.mem_append_left _ hf)) (hmem seg (List.mem_append_cons_self)) hfv hfs hfol hcnt

theorem carry_num (st : St) (n : Str) (x : Nat) (h : lookupLast n st.syms = some (.num x)) :
    lookupLast n (carry st) = some (.num x) :=
  carry_number st n x h

theorem passes_num (objs : List InSec) (ls : List Line) (ds : List (Str × Val)) (n : Str) (x : Nat)
    (hd : lookupLast n ds = some (.num x)) (hc : assignCount n ls = 0) :
    ∀ k, lookupLast n (passes objs ls ds k).syms = some (.num x) :=
  passes_unassigned objs ls ds n _ (Or.inr ⟨x, rfl⟩) hd hc

theorem fixed_symbol_main (objs : List InSec) {cx : Ctx} {segs : List Segment} {script : List Line}
    (hS : MainScript cx segs script) (defsyms : List (Str × Nat))
    (pre post : List Segment) (seg : Segment) (hsplit : segs = pre ++ seg :: post)
    (hinc : shouldEmit cx.o seg.cond = true)
    (hfv : seg.fixedVram = none) (a : Str) (hfs : seg.fixedSymbol = some a) (hadot : a ≠ c!".")
    (x : Nat) (hds : lookupLast a (defsyms.map fun kv => (kv.1, Val.num kv.2)) = some (.num x))
    (hcnt : assignCount a script = 0) :
    ∃ os ∈ (link objs defsyms script).secs, os.name = c!"." ++ seg.name ∧ os.noload = false ∧ os.addr = x := by
  obtain ⟨c⟩ := hS.cut objs defsyms pre seg post hsplit
  obtain ⟨hp, hs⟩ : assignCount a c.lsPre = 0 ∧ assignCount a c.lsSeg = 0 := by have := c.count a; omega
  -- the segments in front keep what `--defsym` gave the name
  have hx := (execK_keeps_count objs a c.lsPre c.st1 (c.lsSeg ++ c.R) hp).trans (c.defsym a x hcnt hds)
  obtain ⟨os, hos, h1, h2, h3⟩ := segment_operand_addr objs cx hS.syms c.hseg hinc
    (c.allocSeg hinc) _ c.reached c.R a (by unfold segAddr; simp [hfv, hfs]) hs x
    (fun st₁ e => operand_num st₁ a x hadot (e.trans hx))
  exact ⟨os, by rw [c.image]; exact image_sec_kept objs _ c.R os hos, h1, h3, h2⟩

/-- **C03 in the linked image, for the whole ordinary script: `fixed_symbol`.** An emitted segment whose
`fixed_symbol` is a name the linker is given with `--defsym <name>=<x>` and the script never assigns has `.<segment>`
recorded at `x`. -/
theorem final_fixed_symbol (objs : List InSec) (d : Document) (o : Opts) (vc : Bool) (script : List Line)
    (hmulti : d.settings.singleSegmentMode = false)
    (h : generateNormal d o vc = .ok script)
    (hall : ∀ s ∈ d.segments, shouldEmit o s.cond = true → s.allocSections ≠ [])
    (defsyms : List (Str × Nat))
    (pre post : List Segment) (seg : Segment) (hsplit : d.segments = pre ++ seg :: post)
    (hinc : shouldEmit o seg.cond = true)
    (hfv : seg.fixedVram = none) (a : Str) (hfs : seg.fixedSymbol = some a) (hadot : a ≠ c!".") (harom : a ≠ romPos)
    (x : Nat) (hds : lookupLast a (defsyms.map fun kv => (kv.1, Val.num kv.2)) = some (.num x))
    (hcnt : assignCount a script = 0) :
    ∃ os ∈ (link objs defsyms script).secs, os.name = c!"." ++ seg.name ∧ os.noload = false ∧ os.addr = x :=
  fixed_symbol_main objs (MainScript.normal d o vc script hmulti h hall) defsyms pre post seg hsplit hinc hfv a hfs hadot x hds
    hcnt

/-- `final_fixed_symbol` for the main script of partial mode. -/
theorem final_fixed_symbol_partial (objs : List InSec) (d : Document) (o : Opts) (vc : Bool) (out : PartialOut)
    (h : generatePartial d o vc = .ok out)
    (hall : ∀ s ∈ d.segments, shouldEmit o s.cond = true → s.allocSections ≠ [])
    (defsyms : List (Str × Nat)) (folder : Str) (hfolder : d.settings.partialBuildSegmentsFolder = some folder)
    (pre post : List Segment) (seg : Segment) (hsplit : partialSegs d o folder = pre ++ seg :: post)
    (hfv : seg.fixedVram = none) (a : Str) (hfs : seg.fixedSymbol = some a) (hadot : a ≠ c!".") (harom : a ≠ romPos)
    (x : Nat) (hds : lookupLast a (defsyms.map fun kv => (kv.1, Val.num kv.2)) = some (.num x))
    (hcnt : assignCount a out.main = 0) :
    ∃ os ∈ (link objs defsyms out.main).secs, os.name = c!"." ++ seg.name ∧ os.noload = false ∧ os.addr = x :=
  fixed_symbol_main objs (MainScript.partial d o vc out h hall folder hfolder) defsyms pre post seg hsplit
    (partialSegs_split_emitted hsplit) hfv a hfs hadot x hds hcnt

/-! ### the hypotheses are met, and the conclusion is about real numbers -/

def exDocF : Document :=
  { segments := [
      { name := c!"boot", fixedVram := some 0x80000000, allocSections := [c!".text", c!".data"], noloadSections := [c!".bss"],
        segmentEndAlign := some 16, files := [C04.exF c!"a.o"] },
      { name := c!"main", followsSegment := some c!"boot", allocSections := [c!".text", c!".data"], noloadSections := [c!".bss"],
        files := [C04.exF c!"b.o"] }] }

/-- `main` follows `boot`: the script assigns `boot_VRAM_END` once, and in the image `.main` is recorded at
its value, 0x80000000 + 20 bytes of `.text`, rounded up to the 8 of `.bss`, + 100 bytes of noload data, rounded up to 16. -/
example : (match generateNormal exDocF C04.exOpts false with
    | .ok script =>
      decide (assignCount c!"boot_VRAM_END" script = 1)
      && decide ((link C04.exObjs [] script).sym c!"boot_VRAM_END" = some 0x80000080)
      && (link C04.exObjs [] script).secs.any (fun os => os.name = c!".main" && os.addr = 0x80000080 && !os.noload)
    | .error _ => false) = true := by decide +kernel

def exDocS : Document :=
  { segments := [
      { name := c!"boot", fixedVram := some 0x80000000, allocSections := [c!".text", c!".data"], noloadSections := [c!".bss"],
        files := [C04.exF c!"a.o"] },
      { name := c!"ovl", fixedSymbol := some c!"ovl_base", allocSections := [c!".text", c!".data"], noloadSections := [c!".bss"],
        files := [C04.exF c!"b.o"] }] }

/-- `ovl` is placed at the symbol `ovl_base`, which the script never assigns and the linker is given as 0x80400000. -/
example : (match generateNormal exDocS C04.exOpts false with
    | .ok script =>
      decide (assignCount c!"ovl_base" script = 0)
      && (link C04.exObjs [(c!"ovl_base", 0x80400000)] script).secs.any (fun os => os.name = c!".ovl" && os.addr = 0x80400000 && !os.noload)
    | .error _ => false) = true := by decide +kernel

end Slinky.C03
