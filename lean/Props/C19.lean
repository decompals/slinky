/-
  C19 — generation never crashes (that the linkers accept a generated script is tested, not proved).
  The model is a set of total Lean functions whose only non-value outcome is
  `Fail.diverge` (recursion bound of the emitter exhausted); what would otherwise be a panic or
  an unbounded recursion (segment count in single-segment mode, cyclic sub-groups) is an error
  value, here as in the code.
-/
import Props.Emit
import Props.Getters
namespace Slinky.C19
open Slinky

/-- single-segment mode with any number of segments other than one is an error value
(`InvalidSegmentCountForSingleSegmentMode` in the code), not a panic. -/
theorem single_segment_count (cx : Ctx) (h : cx.d.settings.singleSegmentMode = true)
    (hn : cx.d.segments.length ≠ 1) : addAllSegments cx = .error (.err .invalidSegmentCount) := by
  unfold addAllSegments
  rw [h, if_pos rfl]
  cases hs : cx.d.segments with
  | nil => rfl
  | cons _ t =>
    cases t with
    | nil => exact absurd (congrArg List.length hs) hn
    | cons _ _ => rfl

/-- no unbounded recursion: re-entering a section that the current chain of sub-group descents
already contains is reported as an error value at once. -/
theorem cycle_is_reported (cx : Ctx) (seg : Segment) (secs : List Str) (fuel : Nat) (f : FileInfo)
    (sec base : Str) (parents : List Str) (hinc : shouldEmit cx.o f.cond = true) (hc : sec ∈ parents) :
    emitEntry cx seg secs (fuel + 1) f sec base parents = .error (.err .cyclicSubgroups) := by
  rw [emitEntry_succ, hinc, if_neg (by decide), if_pos hc]

/-- an excluded entry returns at once, whatever its sections look like. -/
theorem excluded_returns (cx : Ctx) (seg : Segment) (secs : List Str) (fuel : Nat) (f : FileInfo)
    (sec base : Str) (parents : List Str) (hexc : shouldEmit cx.o f.cond = false) :
    emitEntry cx seg secs (fuel + 1) f sec base parents = .ok [] := by
  rw [emitEntry_succ, hexc]; rfl

/-- a cyclic `sections_subgroups` table never reaches the emitter: the segment is rejected
when it is parsed. -/
theorem cyclic_subgroups_rejected (st : Settings) (s : SegmentS) (seg : Segment)
    (h : segmentRest st s = .ok seg) : hasSubgroupCycle seg.sectionsSubgroups = false := by
  obtain ⟨hv, rfl⟩ := segmentRest_inv h
  unfold C16.restValid at hv
  have hc := (Bool.and_eq_true_iff.1 hv).2
  rw [← resolvedSub_eq] at hc
  exact (Bool.not_eq_true' _).mp hc

theorem concatMapE_error {α β ε} (f : α → Except ε (List β)) (l : List α) (e : ε)
    (h : concatMapE f l = .error e) : ∃ a ∈ l, f a = .error e := error_of_concatMapE h

theorem depth_le_of_mem (c : FileInfo) (fs : List FileInfo) (h : c ∈ fs) :
    FileInfo.depth c ≤ FileInfo.depthList fs := by
  induction fs with
  | nil => simp at h
  | cons a as ih =>
    unfold FileInfo.depthList
    rcases List.mem_cons.1 h with h | h
    · subst h; exact Nat.le_max_left _ _
    · exact Nat.le_trans (ih h) (Nat.le_max_right _ _)

theorem depth_pos (f : FileInfo) : 1 ≤ FileInfo.depth f := by
  cases f; simp [FileInfo.depth]

/-- the chain of sections the emitter is nested in for one file: no repetition (the guard),
everything but the root of the chain is a sub-group section, and so is the current section
once the chain is non-empty. -/
def ChainInv (seg : Segment) (parents : List Str) (sec : Str) : Prop :=
  parents.Nodup ∧ (∀ p ∈ parents.dropLast, p ∈ subgroupValues seg) ∧ (parents ≠ [] → sec ∈ subgroupValues seg)

theorem chain_length (seg : Segment) (parents : List Str) (sec : Str) (h : ChainInv seg parents sec) :
    parents.length ≤ (subgroupValues seg).length + 1 := by
  have h1 : parents.dropLast.Nodup := List.Nodup.sublist (List.dropLast_sublist _) h.1
  have h2 := List.Nodup.length_le_of_subset h1 (fun p hp => h.2.1 p hp)
  simp only [List.length_dropLast] at h2
  omega

theorem chain_push (seg : Segment) (parents : List Str) (sec other k : Str)
    (h : ChainInv seg parents sec) (hn : sec ∉ parents) (ho : other ∈ subgroupsOf seg k) :
    ChainInv seg (sec :: parents) other := by
  refine ⟨List.nodup_cons.2 ⟨hn, h.1⟩, ?_, fun _ => subgroupsOf_subset ho⟩
  intro p hp
  cases parents with
  | nil => simp at hp
  | cons q qs =>
    simp only [List.dropLast_cons_cons, List.mem_cons] at hp
    rcases hp with hp | hp
    · subst hp; exact h.2.2 (by simp)
    · exact h.2.1 p hp

/-- **the per-file emitter never exhausts its fuel**, provided the fuel covers the depth of
the entry times the longest possible chain. -/
theorem emitEntry_never_diverges (cx : Ctx) (seg : Segment) (secs : List Str) :
    ∀ (fuel : Nat) (f : FileInfo) (sec base : Str) (parents : List Str),
      ChainInv seg parents sec →
      FileInfo.depth f * ((subgroupValues seg).length + 2) ≤ fuel + parents.length →
      emitEntry cx seg secs fuel f sec base parents ≠ .error .diverge := by
  intro fuel
  induction fuel with
  | zero =>
    intro f sec base parents hinv hfuel
    have hl := chain_length seg parents sec hinv
    have := Nat.le_mul_of_pos_left ((subgroupValues seg).length + 2) (depth_pos f)
    omega
  | succ n ih =>
    intro f sec base parents hinv hfuel
    have hl := chain_length seg parents sec hinv
    rw [emitEntry_succ]
    refine ite_ne_diverge (fun _ => nofun) fun _ => ite_ne_diverge (fun _ => nofun) fun hp =>
      concatMapE_ne_diverge fun k _ => appendE_ne_diverge
        (fileBody_ne_diverge fun b => concatMapE_ne_diverge fun child hchild =>
          ih child k b [] ⟨List.nodup_nil, by simp, by simp⟩ ?_)
        (ite_ne_diverge (fun _ => nofun) fun _ => concatMapE_ne_diverge fun other hother =>
          ih f other base (sec :: parents) (chain_push seg parents sec other k hinv hp hother) ?_)
    · -- a child of a group: one level less, a new chain
      have h1 := Nat.mul_le_mul_right ((subgroupValues seg).length + 2) (depth_le_of_mem child f.files hchild)
      have h2 : FileInfo.depth f = FileInfo.depthList f.files + 1 := by cases f; rfl
      rw [h2, Nat.add_mul, Nat.one_mul] at hfuel
      simp only [List.length_nil, Nat.add_zero]
      omega
    · -- a sub-group: same entry, the chain grows
      simp only [List.length_cons]
      omega

theorem emitEntry_enough (cx : Ctx) (seg : Segment) (secs : List Str) {n : Nat} {f : FileInfo} (sec base : Str)
    (hn : FileInfo.depth f * ((subgroupValues seg).length + 2) ≤ n) :
    emitEntry cx seg secs n f sec base [] ≠ .error .diverge :=
  emitEntry_never_diverges cx seg secs n f sec base [] ⟨List.nodup_nil, by simp, by simp⟩ hn

theorem fuelFor_enough {seg : Segment} {f : FileInfo} (hf : f ∈ seg.files) :
    FileInfo.depth f * ((subgroupValues seg).length + 2) ≤ fuelFor seg :=
  Nat.le_trans (Nat.mul_le_mul_right _ (depth_le_of_mem f seg.files hf)) (Nat.le_succ _)

theorem emitEntry_fuel_irrelevant (cx : Ctx) (seg : Segment) (secs : List Str) {n m : Nat} {f : FileInfo} (sec base : Str)
    (hn : FileInfo.depth f * ((subgroupValues seg).length + 2) ≤ n)
    (hm : FileInfo.depth f * ((subgroupValues seg).length + 2) ≤ m) :
    emitEntry cx seg secs n f sec base [] = emitEntry cx seg secs m f sec base [] := by
  rcases Nat.le_total n m with h | h
  · obtain ⟨d, rfl⟩ := Nat.exists_eq_add_of_le h
    exact (emitEntry_divLe_add cx seg secs d n f sec base [] (emitEntry_enough cx seg secs sec base hn)).symm
  · obtain ⟨d, rfl⟩ := Nat.exists_eq_add_of_le h
    exact emitEntry_divLe_add cx seg secs d m f sec base [] (emitEntry_enough cx seg secs sec base hm)

theorem entries_never_diverge (cx : Ctx) (seg : Segment) (secs : List Str) (sec base : Str) :
    concatMapE (fun file => emitEntry cx seg secs (fuelFor seg) file sec base []) seg.files ≠ .error .diverge :=
  concatMapE_ne_diverge fun _ hfile => emitEntry_enough cx seg secs sec base (fuelFor_enough hfile)

theorem emitSection_never_diverges (cx : Ctx) (seg : Segment) (sec : Str) (secs : List Str) :
    emitSection cx seg sec secs ≠ .error .diverge := by
  rw [emitSection_eq_bind]
  exact bind_ne_diverge (segBase_ne_diverge cx seg) fun b => entries_never_diverge cx seg secs sec b

theorem sectionLoop_never_diverges {f : Str → R (List Line)} (hf : ∀ s, f s ≠ .error .diverge) :
    ∀ l, sectionLoop f l ≠ .error .diverge
  | [] => nofun
  | [s] => hf s
  | s :: t :: rest => by
    rw [sectionLoop_cons_cons]
    exact bind_ne_diverge (hf s) fun _ => bind_ne_diverge (sectionLoop_never_diverges hf (t :: rest)) fun _ => nofun

/-! `bind_ne_diverge` goes along the `match`es of the writer functions as along `bind`s (see `W.writeSegment_ok`). -/

set_option smartUnfolding false in
theorem writeSegment_never_diverges (cx : Ctx) (seg : Segment) (secs : List Str) (nl : Bool) :
    writeSegment cx seg secs nl ≠ .error .diverge := by
  refine bind_ne_diverge (sectionLoop_never_diverges (fun s => ?_) secs) fun _ => nofun
  exact bind_ne_diverge (emitSection_never_diverges cx seg s secs) fun _ => nofun

set_option smartUnfolding false in
theorem writeSingleSegment_never_diverges (cx : Ctx) (seg : Segment) (secs : List Str) (nl : Bool) :
    writeSingleSegment cx seg secs nl ≠ .error .diverge := by
  refine bind_ne_diverge (sectionLoop_never_diverges (fun s => ?_) secs) fun _ => nofun
  exact bind_ne_diverge (emitSection_never_diverges cx seg s secs) fun _ => nofun

set_option smartUnfolding false in
theorem addSingleSegment_never_diverges (cx : Ctx) (seg : Segment) :
    addSingleSegment cx seg ≠ .error .diverge :=
  bind_ne_diverge (writeSingleSegment_never_diverges cx seg _ _) fun _ =>
    bind_ne_diverge (writeSingleSegment_never_diverges cx seg _ _) fun _ => nofun

theorem classPart_never_diverges (cx : Ctx) (em : List Str) (seg : Segment) :
    classPart cx em seg ≠ .error .diverge := by
  unfold classPart
  repeat' split
  all_goals exact nofun

set_option smartUnfolding false in
theorem addSegment_never_diverges (cx : Ctx) (em : List Str) (seg : Segment) :
    addSegment cx em seg ≠ .error .diverge := by
  unfold addSegment
  split
  · exact nofun
  · exact bind_ne_diverge (classPart_never_diverges cx em seg) fun _ =>
      bind_ne_diverge (writeSegment_never_diverges cx seg _ _) fun _ =>
      bind_ne_diverge (writeSegment_never_diverges cx seg _ _) fun _ => nofun

set_option smartUnfolding false in
theorem addSegments_never_diverges (cx : Ctx) : ∀ (segs : List Segment) (em : List Str),
    addSegments cx em segs ≠ .error .diverge
  | [], _ => nofun
  | s :: rest, em => by
    rw [addSegments]
    exact bind_ne_diverge (addSegment_never_diverges cx em s) fun r =>
      bind_ne_diverge (addSegments_never_diverges cx rest r.2) fun _ => nofun

set_option smartUnfolding false in
theorem addAllSegments_never_diverges (cx : Ctx) : addAllSegments cx ≠ .error .diverge := by
  unfold addAllSegments
  split
  · split
    · exact addSingleSegment_never_diverges cx _
    · exact nofun
  · exact bind_ne_diverge (addSegments_never_diverges cx _ _) fun _ => nofun

set_option smartUnfolding false in
theorem partialSegments_never_diverges (d : Document) (o : Opts) (vc : Bool) (folder : Str)
    (esc : Opts → Str → Except ErrKind Str) : ∀ (segs : List Segment) (em : List Str),
    partialSegments d o vc folder esc em segs ≠ .error .diverge
  | [], _ => nofun
  | s :: rest, em => by
    rw [partialSegments]
    split
    · exact partialSegments_never_diverges d o vc folder esc rest em
    · exact bind_ne_diverge (addSingleSegment_never_diverges _ s) fun _ =>
        bind_ne_diverge (addSegment_never_diverges _ em _) fun r =>
        bind_ne_diverge (partialSegments_never_diverges d o vc folder esc rest r.2) fun _ => nofun

set_option smartUnfolding false in
theorem generateNormal_never_diverges (d : Document) (o : Opts) (vc : Bool) :
    generateNormal d o vc ≠ .error .diverge :=
  bind_ne_diverge (addAllSegments_never_diverges _) fun _ => nofun

set_option smartUnfolding false in
theorem generatePartial_never_diverges (d : Document) (o : Opts) (vc : Bool) :
    generatePartial d o vc ≠ .error .diverge := by
  unfold generatePartial
  split
  · exact nofun
  · exact bind_ne_diverge (partialSegments_never_diverges d o vc _ _ _ _) fun _ => nofun

theorem mainDeps_never_diverges (d : Document) (o : Opts) (vc : Bool) (ls : List Line) :
    mainDeps d o vc ls ≠ .error .diverge := by
  unfold mainDeps
  split <;> exact nofun

theorem mapE_error {α β} (f : α → R β) (l : List α) (e : Fail) (h : mapE f l = .error e) :
    ∃ a ∈ l, f a = .error e := by
  induction l with
  | nil => cases h
  | cons a as ih =>
    rw [mapE_cons] at h
    rcases bind_eq_error.1 h with h | ⟨_, _, h⟩
    · exact ⟨a, List.mem_cons_self, h⟩
    · rcases bind_eq_error.1 h with h | ⟨_, _, h⟩
      · obtain ⟨x, hx, hfx⟩ := ih h
        exact ⟨x, List.mem_cons_of_mem _ hx, hfx⟩
      · cases h

set_option smartUnfolding false in
/-- **C19, model level: generation always returns.** The outcome of `generate` is a success or
an error *value*: the recursion bound of the emitter is never exhausted, and the model has no
other way not to return a value (every function is total). -/
theorem never_diverges (d : Document) (o : Opts) (m : Mode) (vc : Bool) :
    generate d o m vc ≠ .error .diverge := by
  cases m with
  | normal => exact bind_ne_diverge (generateNormal_never_diverges d o vc) fun _ =>
      bind_ne_diverge (mainDeps_never_diverges d o vc _) fun _ => nofun
  | partialLink => exact bind_ne_diverge (generatePartial_never_diverges d o vc) fun _ =>
      bind_ne_diverge (mainDeps_never_diverges d o vc _) fun _ => nofun

end Slinky.C19
