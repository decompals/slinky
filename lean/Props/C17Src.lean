/-
  C17, the text of the top-level statements (`ENTRY`, `EXTERN`, `ASSERT`, the required-symbol pair, user symbol
  assignments, both `_gp` forms) — tied to the source text (lean/Src/Formats.lean, written by
  tools/extract_formats.py from the string literals of script_buffer.rs / linker_writer.rs on every check run).
-/
import Src.Formats
import Slinkyv.Script
import Props.Render
namespace Slinky.C17

theorem entry_src (e : Str) : (Line.entry e).renderBody = fmt Src.lw__add_entry_0 [.s e] := by
  unfold Line.renderBody Src.lw__add_entry_0
  simp only [fmtNorm]

theorem extern_src (n : Str) : (Line.extern n).renderBody = fmt Src.sb__write_required_symbol_0 [.s n] := by
  unfold Line.renderBody Src.sb__write_required_symbol_0
  simp only [fmtNorm]

theorem assert_src (c m : Str) : (Line.assertL c m).renderBody = fmt Src.sb__write_assert_0 [.s c, .s m] := by
  unfold Line.renderBody Src.sb__write_assert_0
  simp only [fmtNorm]

/-- the two lines `topLevel` writes for a required symbol are `write_required_symbol`'s. -/
theorem required_symbol_src (n : Str) :
    [Line.extern n, Line.assertL (c!"DEFINED(" ++ n ++ c!")") (c!"Required symbol '" ++ n ++ c!"' was not linked")].map Line.renderBody
      = [fmt Src.sb__write_required_symbol_0 [.s n],
         fmt Src.sb__write_assert_0 [.s (fmt Src.sb__write_required_symbol_1 [.s n]),
                                     .s (fmt Src.sb__write_required_symbol_2 [.s n])]] := by
  unfold Src.sb__write_required_symbol_0 Src.sb__write_required_symbol_1 Src.sb__write_required_symbol_2
    Src.sb__write_assert_0
  simp only [List.map, Line.renderBody.eq_def, fmtNorm]

theorem assignment_src (s v : Str) (l : Bool) :
    (Line.assign s (.sym v) true true l).renderBody = fmt Src.sb__write_symbol_assignment_0 [.s s, .s v]
    ∧ (Line.assign s (.sym v) true false l).renderBody = fmt Src.sb__write_symbol_assignment_1 [.s s, .s v]
    ∧ (Line.assign s (.sym v) false true l).renderBody = fmt Src.sb__write_symbol_assignment_2 [.s s, .s v]
    ∧ (Line.assign s (.sym v) false false l).renderBody = fmt Src.sb__write_symbol_assignment_3 [.s s, .s v] := by
  unfold Line.renderBody Expr.render Src.sb__write_symbol_assignment_0 Src.sb__write_symbol_assignment_1
    Src.sb__write_symbol_assignment_2 Src.sb__write_symbol_assignment_3
  refine ⟨?_, ?_, ?_, ?_⟩ <;> simp only [fmtNorm]

theorem hardcoded_gp_src (v : Nat) :
    (Line.assign c!"_gp" (.hex8 v) false false false).renderBody = fmt Src.lw__begin_sections_2 [.n v]
    ∧ (Line.assign c!"_gp" (.hex8 v) false false false).renderBody = fmt Src.lw__add_single_segment_1 [.n v] := by
  unfold Line.renderBody Expr.render Src.lw__begin_sections_2 Src.lw__add_single_segment_1
  constructor <;> simp only [fmtNorm] <;> rfl

/-- the `_gp` of `gp_info`, in the form without `PROVIDE` and `HIDDEN`: the symbol name and the value
`. + 0x{:X}` of the `i32` offset are literals of `write_section_symbol_start`. -/
theorem gp_info_src (off : Int) (l : Bool) :
    (Line.assign c!"_gp" (.dotPlus (toHexI32 off)) false false l).renderBody
      = fmt Src.sb__write_symbol_assignment_3
          [.s (fmt Src.lw__write_section_symbol_start_2 []), .s (fmt Src.lw__write_section_symbol_start_3 [.i off])] := by
  unfold Line.renderBody Expr.render Src.sb__write_symbol_assignment_3 Src.lw__write_section_symbol_start_2
    Src.lw__write_section_symbol_start_3
  simp only [fmtNorm]

/-- the functions this file reads have the number of literals the model was written against. -/
theorem counts_src : Src.lw__add_entry_count = 1 ∧ Src.sb__write_required_symbol_count = 3 ∧ Src.sb__write_assert_count = 1
    ∧ Src.sb__write_symbol_assignment_count = 4 ∧ Src.lw__begin_sections_count = 3 ∧ Src.lw__add_single_segment_count = 3
    ∧ Src.lw__write_section_symbol_start_count = 5 := ⟨rfl, rfl, rfl, rfl, rfl, rfl, rfl⟩

end Slinky.C17
