/-
  The end of the `SECTIONS` block in the linker semantics: single-entry sections of the allowlists and the `/DISCARD/`
  block.
-/
import Props.Image
namespace Slinky
namespace Ld
open W

/-- an allowlisted section survives: `sec 0 : { *(sec); }` places every input section of that name that nothing has
placed or discarded before, in an output section of that name. -/
theorem single_entry_image (objs : List InSec) (st : St) (sec addr : Str) (r : List Line) :
    ∀ i ∈ objs, i.sec = sec → isFree st i = true →
      ∃ p ∈ (step objs st (.singleEntry sec addr) r).placed, p.inp = i ∧ p.out = sec := by
  intro i hi hs hf
  simp only [step]
  obtain ⟨_, _, _, _, _, _, new, hp, hc, hm, _⟩ :=
    placeAll_spec sec none (objs.filter fun i => i.sec = sec && isFree st i) { st with dot := (operand st addr).getD st.dot }
  have hmem : i ∈ new.map (·.inp) := by
    rw [hm]
    simp [hi, hs, hf]
  obtain ⟨p, hp', hpi⟩ := List.mem_map.1 hmem
  refine ⟨p, ?_, hpi, (chainOk_mem _ _ _ _ hc p hp').2.2⟩
  show p ∈ (placeAll sec none { st with dot := (operand st addr).getD st.dot } _).placed
  rw [hp]
  exact List.mem_append_right _ hp'

theorem single_entry_only_free (objs : List InSec) (st : St) (sec addr : Str) (r : List Line) :
    ∃ new, (step objs st (.singleEntry sec addr) r).placed = st.placed ++ new ∧
      ∀ p ∈ new, isFree st p.inp = true ∧ p.inp.sec = sec := by
  simp only [step]
  obtain ⟨_, _, _, _, _, _, new, hp, _, hm, _⟩ :=
    placeAll_spec sec none (objs.filter fun i => i.sec = sec && isFree st i) { st with dot := (operand st addr).getD st.dot }
  refine ⟨new, hp, ?_⟩
  intro p hp'
  have : p.inp ∈ new.map (·.inp) := List.mem_map.2 ⟨p, hp', rfl⟩
  rw [hm] at this
  simp only [List.mem_filter, Bool.and_eq_true, decide_eq_true_eq] at this
  exact ⟨this.2.2, this.2.1⟩

/-- the discard block only takes what nothing placed: a `*(pat);` line of `/DISCARD/` discards exactly the input
sections that match and are still free; with `*(*)` every free one. -/
theorem discard_pat_image (objs : List InSec) (st : St) (hd : st.inDiscard = true) (pat : Str) (r : List Line) :
    (step objs st (.discardPat pat) r).placed = st.placed ∧
    (step objs st (.discardPat pat) r).discarded
      = st.discarded ++ objs.filter (fun i => (pat = c!"*" || i.sec = pat) && isFree st i) ∧
    ∀ i ∈ objs, isFree st i = true → (pat = c!"*" ∨ i.sec = pat) → i ∈ (step objs st (.discardPat pat) r).discarded := by
  simp only [step, hd, if_true]
  refine ⟨trivial, trivial, ?_⟩
  intro i hi hf hp
  apply List.mem_append_right
  simp only [List.mem_filter, Bool.and_eq_true, Bool.or_eq_true, decide_eq_true_eq]
  exact ⟨hi, hp, hf⟩

theorem placed_not_free (st : St) (p : Placed) (hp : p ∈ st.placed) : isFree st p.inp = false := by
  unfold isFree
  have : (st.placed.any fun q => q.inp = p.inp) = true := by
    rw [List.any_eq_true]; exact ⟨p, hp, by simp⟩
  simp [this]

end Ld
end Slinky
