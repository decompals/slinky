/-
  C07 — `{key}` expansion: the character scanner of `escape_path` computes the declarative expansion
  (`escapePath_spec`), which replaces every `{key}` or fails (`expand_value`, `expand_error_iff`).
-/
import Slinkyv.P.C07
namespace Slinky.C07
open Slinky

mutual
  /-- the character scanner of `escape_path` computes the declarative expansion. -/
  theorem scanLit_spec (o : Opts) (s : Str) : scanLit o s = expandToks o (tokLit s) := by
    cases s with
    | nil => rfl
    | cons c cs =>
      rw [scanLit, tokLit]
      split
      · exact scanKey_spec o [] cs
      · rw [expandToks, scanLit_spec o cs]; rfl
  theorem scanKey_spec (o : Opts) (key s : Str) : scanKey o key s = expandToks o (tokKey key s) := by
    cases s with
    | nil => exact (congrArg (fun r => Except.ok ('{' :: r)) (List.append_nil key)).symm
    | cons c cs =>
      rw [scanKey, tokKey]
      split
      · rw [expandToks, scanLit_spec o cs]; rfl
      · exact scanKey_spec o (key ++ [c]) cs
end

mutual
  /-- tokenisation loses nothing: the sources of the tokens concatenate to the component. -/
  theorem source_tokLit (s : Str) : ((tokLit s).map Tok.source).flatten = s := by
    cases s with
    | nil => simp [tokLit]
    | cons c cs =>
      unfold tokLit
      by_cases h : c = '{'
      · simpa [h] using source_tokKey [] cs
      · simp [h, Tok.source, source_tokLit cs]
  theorem source_tokKey (key s : Str) : ((tokKey key s).map Tok.source).flatten = '{' :: key ++ s := by
    cases s with
    | nil => simp [tokKey, Tok.source]
    | cons c cs =>
      unfold tokKey
      by_cases h : c = '}'
      · simp [h, Tok.source, source_tokLit cs]
      · simpa [h] using source_tokKey (key ++ [c]) cs
end

def Tok.value (o : Opts) : Tok → Str
  | .lit c => [c]
  | .key k => (optGet o k).getD []
  | .unterminated t => '{' :: t

/-- **never partially expanded, never truncated**: a successful expansion is the
concatenation, in order, of every literal character, the value of every key and every
unterminated tail. -/
theorem expand_value (o : Opts) (toks : List Tok) (r : Str) (h : expandToks o toks = .ok r) :
    r = (toks.map (Tok.value o)).flatten := by
  induction toks generalizing r with
  | nil => simp [expandToks] at h; simp [h]
  | cons t ts ih =>
    cases t with
    | lit c =>
      simp only [expandToks] at h
      cases hr : expandToks o ts with
      | error e => simp [hr] at h
      | ok r' => simp [hr] at h; subst h; simp [Tok.value, ih r' hr]
    | key k =>
      simp only [expandToks] at h
      cases hk : optGet o k with
      | none => simp [hk] at h
      | some v =>
        cases hr : expandToks o ts with
        | error e => simp [hk, hr] at h
        | ok r' => simp [hk, hr] at h; subst h; simp [Tok.value, hk, ih r' hr]
    | unterminated t =>
      simp only [expandToks] at h
      cases hr : expandToks o ts with
      | error e => simp [hr] at h
      | ok r' => simp [hr] at h; subst h; simp [Tok.value, ih r' hr]

/-- **error iff a referenced key is missing**; in particular a path whose keys were all
provided is never rejected. -/
theorem expand_error_iff (o : Opts) (toks : List Tok) :
    (∃ k, expandToks o toks = .error k) ↔ ∃ k, Tok.key k ∈ toks ∧ optGet o k = none := by
  induction toks with
  | nil => simp [expandToks]
  | cons t ts ih =>
    cases t with
    | lit c =>
      simp only [expandToks, List.mem_cons, reduceCtorEq, false_or]
      rw [← ih]
      cases expandToks o ts <;> simp
    | key k =>
      simp only [expandToks, List.mem_cons, Tok.key.injEq]
      cases hk : optGet o k with
      | none => simp; exact Or.inl hk
      | some v =>
        constructor
        · intro h
          have : ∃ k, expandToks o ts = .error k := by
            cases hr : expandToks o ts with
            | error e => exact ⟨e, rfl⟩
            | ok r => simp [hr] at h
          obtain ⟨k', hk1, hk2⟩ := ih.1 this
          exact ⟨k', Or.inr hk1, hk2⟩
        · rintro ⟨k', hk1 | hk1, hk2⟩
          · subst hk1; simp [hk] at hk2
          · obtain ⟨e, he⟩ := ih.2 ⟨k', hk1, hk2⟩
            exact ⟨e, by simp [he]⟩
    | unterminated t =>
      simp only [expandToks, List.mem_cons, reduceCtorEq, false_or]
      rw [← ih]
      cases expandToks o ts <;> simp

mutual
  theorem tokLit_no_close (o : Opts) (s : Str) (h : '}' ∉ s) : expandToks o (tokLit s) = .ok s := by
    cases s with
    | nil => simp [tokLit, expandToks]
    | cons c cs =>
      have hc : '}' ∉ cs := fun hm => h (List.mem_cons_of_mem _ hm)
      unfold tokLit
      by_cases h1 : c = '{'
      · simpa [h1] using tokKey_no_close o [] cs hc
      · simp [h1, expandToks, tokLit_no_close o cs hc]
  theorem tokKey_no_close (o : Opts) (key s : Str) (h : '}' ∉ s) :
      expandToks o (tokKey key s) = .ok ('{' :: key ++ s) := by
    cases s with
    | nil => simp [tokKey, expandToks]
    | cons c cs =>
      have hc : '}' ∉ cs := fun hm => h (List.mem_cons_of_mem _ hm)
      have hne : c ≠ '}' := fun he => h (by simp [he])
      unfold tokKey
      simpa [hne] using tokKey_no_close o (key ++ [c]) cs hc
end

theorem tokLit_no_open (o : Opts) (s : Str) (h : '{' ∉ s) : expandToks o (tokLit s) = .ok s := by
  induction s with
  | nil => simp [tokLit, expandToks]
  | cons c cs ih =>
    have hc : '{' ∉ cs := fun hm => h (List.mem_cons_of_mem _ hm)
    have hne : c ≠ '{' := fun he => h (by simp [he])
    unfold tokLit
    simp [hne, expandToks, ih hc]

/-- the "no replacement at all" fast path of `escape_path` is redundant. -/
theorem escapeComponent_spec (o : Opts) (c : Str) : escapeComponent o c = expandComponentSpec o c := by
  unfold escapeComponent expandComponentSpec tokenize
  split
  · rename_i h
    simp only [Bool.or_eq_true, Bool.not_eq_true', List.contains_eq_mem, decide_eq_false_iff_not] at h
    rcases h with h | h
    · exact (tokLit_no_open o c h).symm
    · exact (tokLit_no_close o c h).symm
  · exact scanLit_spec o c

theorem escapeComponents_spec (o : Opts) (buf : Str) (cs : List Str) :
    escapeComponents o buf cs = escapeComponentsSpec o buf cs := by
  induction cs generalizing buf with
  | nil => rfl
  | cons c cs ih =>
    unfold escapeComponents escapeComponentsSpec
    rw [escapeComponent_spec]
    cases expandComponentSpec o c with
    | error e => rfl
    | ok r => exact ih _

/-- **`escape_path` is the specification.** -/
theorem escapePath_spec : escapePath = escapePathSpec := by
  funext o raw
  exact escapeComponents_spec o [] (components raw)

/-- every output of a generation is unchanged when the writer runs on the declarative
expansion instead of the code's scanner. -/
theorem generate_spec (d : Document) (o : Opts) (m : Mode) (vc : Bool) :
    generate d o m vc escapePathSpec = generate d o m vc := by
  rw [← escapePath_spec]

end Slinky.C07
