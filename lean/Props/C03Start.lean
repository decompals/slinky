/-
  C03 / C05 in the image `Ld.link` returns: the VRAM start symbol of every emitted segment is the
  address of the segment's allocatable output section — `<segment>_VRAM = ADDR(.<segment>)` is written in
  front of the header, so when it is evaluated the section does not exist yet; the linker semantics
  records a forward reference and resolves it against the sections of the finished evaluation
  (`Ld.addr_symbol_from`). Hence the hypotheses on the text of the script: it assigns the symbol once and
  has one header `.<segment>` (distinct segment names, no allowlisted section called like a segment's
  output section).
-/
import Props.C03Vram
import Props.Example
namespace Slinky.C03
open Slinky W Ld

theorem execK_nd (objs : List InSec) : ∀ (ls : List Line)
    (_ : ∀ l ∈ ls, l = .blank ∨ ∃ s e p h lk, l = .assign s e p h lk) (st : St) (k : List Line),
    (execK objs st ls k).inDiscard = st.inDiscard :=
  fun ls h st k => execK_inDiscard objs ls st k fun l hl =>
    simple_ne (by rcases h l hl with rfl | ⟨_, _, _, _, _, rfl⟩ <;> rfl)

def startAligns (seg : Segment) : List Line :=
  match seg.segmentStartAlign with
  | some a => [alignSymbol c!"__romPos" a, alignSymbol c!"." a]
  | none => []

theorem startAligns_eq (seg : Segment) : startAligns seg = alignPair seg.segmentStartAlign := rfl

theorem segmentLines_split (cx : Ctx) (seg : Segment) (cls alloc noload : List Line) :
    segmentLines cx seg cls alloc noload =
      (cls ++ (startAligns seg ++ [linkerSym (cx.d.settings.style.segRomStart seg.name) (.sym c!"__romPos")]))
      ++ linkerSym (cx.d.settings.style.segVramStart seg.name) (.addr (c!"." ++ seg.name))
        :: (alloc ++ ([.blank] ++ (noload ++ ([.blank] ++ segTail cx seg)))) := by
  rw [segmentLines_parts, segHead, startAligns_eq]
  simp only [List.append_assoc, List.cons_append, List.nil_append]

theorem writeSegment_header (cx : Ctx) (seg : Segment) (ls : List Line)
    (h : writeSegment cx seg seg.allocSections false = .ok ls) : 1 ≤ hdrCount (c!"." ++ seg.name) ls := by
  obtain ⟨body, _, rfl⟩ := writeSegment_ok.1 h
  exact List.countP_pos_iff.2 ⟨.outHdr (c!"." ++ seg.name) false (segAddr cx seg)
    (some (cx.d.settings.style.segRomStart seg.name)) seg.subalign, by simp [segmentStart], by simp [hdrOf]⟩

theorem addSegment_start_cut {cx : Ctx} {em : List Str} {seg : Segment} {lsSeg : List Line} {em' : List Str}
    (hadd : addSegment cx em seg = .ok (lsSeg, em')) (hinc : shouldEmit cx.o seg.cond = true) :
    ∃ A B, lsSeg = A ++ linkerSym (cx.d.settings.style.segVramStart seg.name) (.addr (c!"." ++ seg.name)) :: B ∧
      (∀ l ∈ A, simple l = true) ∧ 1 ≤ hdrCount (c!"." ++ seg.name) B := by
  apply addSegment_elim hadd
  · intro hex; rw [hex] at hinc; cases hinc
  · intro _ cls alloc noload hcp halloc _
    refine ⟨_, _, segmentLines_split cx seg cls alloc noload, List.forall_mem_append.2 ⟨classPart_simple hcp, ?_⟩, ?_⟩
    · rw [startAligns_eq]
      exact List.forall_mem_append.2 ⟨alignPair_simple _, simple_all rfl⟩
    · rw [hdrCount_append]
      exact Nat.le_add_right_of_le (writeSegment_header cx seg alloc halloc)

/-- **an emitted segment reached between output sections, and the rest `R` of the script**: the VRAM start symbol is, in
the image, the address of the segment's allocatable output section, and the VRAM end symbol lies behind that section.
`hhdr`: the sections `.<segment>` recorded so far and the headers `.<segment>` still to come are one in all. -/
theorem addSegment_vram_start (objs : List InSec) (cx : Ctx) (hsy : cx.emitSecSyms = true) {em : List Str} {seg : Segment}
    {lsSeg : List Line} {em' : List Str} (hadd : addSegment cx em seg = .ok (lsSeg, em'))
    (hinc : shouldEmit cx.o seg.cond = true) (hne : seg.allocSections ≠ [])
    (st : St) (hb : Between st) (R : List Line)
    (hcnt : assignCount (cx.d.settings.style.segVramStart seg.name) (lsSeg ++ R) ≤ 1)
    (hhdr : secCount (c!"." ++ seg.name) st + hdrCount (c!"." ++ seg.name) (lsSeg ++ R) ≤ 1) :
    ∃ os ∈ (imageOf (execK objs st (lsSeg ++ R) [])).secs, os.name = c!"." ++ seg.name ∧ os.noload = false ∧
      (imageOf (execK objs st (lsSeg ++ R) [])).sym (cx.d.settings.style.segVramStart seg.name) = some os.addr ∧
      (assignCount (cx.d.settings.style.segVramEnd seg.name) (lsSeg ++ R) ≤ 1 →
        ∃ e, (imageOf (execK objs st (lsSeg ++ R) [])).sym (cx.d.settings.style.segVramEnd seg.name) = some e ∧
          os.addr + os.size ≤ e) := by
  -- the output section and the VRAM end symbol behind the segment
  obtain ⟨cls, r, aS, aE, al, dN, lmaV, hF, _, hend⟩ := addSegment_run objs cx hsy hadd hinc hne st hb (R ++ [])
  have hosI := image_sec_kept objs _ R _ hF.sec
  rw [← execK_append] at hosI
  refine ⟨⟨c!"." ++ seg.name, aS, aE - aS, lmaV, false, al⟩, hosI, rfl, rfl, ?_, fun h => ?_⟩
  rotate_left
  · rw [execK_append]
    refine ⟨_, Once.image ⟨hend, fun _ => hF.vramEnd⟩ objs R (assignCount_append .. ▸ h), ?_⟩
    rw [hF.dot]
    exact Nat.le_trans (Nat.le_of_eq (Nat.add_sub_of_le hF.le_alloc)) (Nat.le_trans hF.le_noload (le_alignO _ _))
  -- the VRAM start symbol: `ADDR(.<segment>)` in front of the header
  clear hF hend
  obtain ⟨A, B, rfl, hA, hB⟩ := addSegment_start_cut hadd hinc
  have hsdot : cx.d.settings.style.segVramStart seg.name ≠ c!"." := ne_dot
  rw [List.append_assoc, linkerSym] at hcnt hhdr hosI ⊢
  obtain ⟨h0, hsB, hnA, hnB⟩ : secCount (c!"." ++ seg.name) st = 0 ∧
      assignCount (cx.d.settings.style.segVramStart seg.name) (B ++ R) = 0 ∧ hdrCount (c!"." ++ seg.name) A = 0 ∧
      hdrCount (c!"." ++ seg.name) (B ++ R) ≤ 1 := by
    simp only [assignCount_append, assignCount_cons, hdrCount_append, hdrCount_cons, symOf, hdrOf, if_neg hsdot, if_true,
      reduceCtorEq, if_false] at hcnt hhdr ⊢
    omega
  refine addr_symbol_from objs st _ h0 A (B ++ R) _ false false true hsdot hsB hnA hnB ?_ _ hosI rfl
  exact (execK_inDiscard objs A st _ fun l hl => simple_ne (hA l hl)).trans hb.out.nd

theorem vram_start_main (objs : List InSec) {cx : Ctx} {segs : List Segment} {script : List Line}
    (hS : MainScript cx segs script) (defsyms : List (Str × Nat))
    (pre post : List Segment) (seg : Segment) (hsplit : segs = pre ++ seg :: post)
    (hinc : shouldEmit cx.o seg.cond = true)
    (hcnt : assignCount (cx.d.settings.style.segVramStart seg.name) script ≤ 1)
    (hhdr : hdrCount (c!"." ++ seg.name) script ≤ 1) :
    ∃ os ∈ (link objs defsyms script).secs, os.name = c!"." ++ seg.name ∧ os.noload = false ∧
      (link objs defsyms script).sym (cx.d.settings.style.segVramStart seg.name) = some os.addr ∧
      (assignCount (cx.d.settings.style.segVramEnd seg.name) script ≤ 1 →
        ∃ e, (link objs defsyms script).sym (cx.d.settings.style.segVramEnd seg.name) = some e ∧ os.addr + os.size ≤ e) := by
  obtain ⟨c⟩ := hS.cut objs defsyms pre seg post hsplit
  have hle : ∀ n, assignCount n (c.lsSeg ++ c.R) ≤ assignCount n script := fun n => by
    rw [c.count, assignCount_append]; exact Nat.le_trans (Nat.le_add_left _ _) (Nat.le_add_left _ _)
  have himg : link objs defsyms script = imageOf (execK objs (execK objs c.st1 c.lsPre (c.lsSeg ++ c.R)) (c.lsSeg ++ c.R) []) := by
    rw [c.image, execK_append, List.append_nil]
  rw [himg]
  obtain ⟨os, hos, g1, g2, g3, g4⟩ := addSegment_vram_start objs cx hS.syms c.hseg hinc
    (c.allocSeg hinc) _ c.reached c.R (Nat.le_trans (hle _) hcnt)
    (by have := execK_secCount objs (c!"." ++ seg.name) c.lsPre c.st1 (c.lsSeg ++ c.R)
        have h1 : secCount (c!"." ++ seg.name) c.st1 = 0 := by simp [secCount, c.secs, c.start.out.cur, curCount]
        have := c.hdrs (c!"." ++ seg.name)
        rw [hdrCount_append]; omega)
  exact ⟨os, hos, g1, g2, g3, fun h => g4 (Nat.le_trans (hle _) h)⟩

/-- **C03 / C05 in the linked image, for the whole ordinary script of a document: the VRAM start symbol.**
For an emitted segment whose VRAM start symbol the script assigns once and whose header `.<segment>` occurs
once, the image `Ld.link` computes holds an output section `.<segment>` and the VRAM start symbol is its
address; the VRAM end symbol, when the script assigns it once, lies at or behind the end of that section. -/
theorem final_vram_start (objs : List InSec) (d : Document) (o : Opts) (vc : Bool) (script : List Line)
    (hmulti : d.settings.singleSegmentMode = false)
    (h : generateNormal d o vc = .ok script)
    (hall : ∀ s ∈ d.segments, shouldEmit o s.cond = true → s.allocSections ≠ [])
    (defsyms : List (Str × Nat))
    (pre post : List Segment) (seg : Segment) (hsplit : d.segments = pre ++ seg :: post)
    (hinc : shouldEmit o seg.cond = true)
    (hcnt : assignCount (d.settings.style.segVramStart seg.name) script ≤ 1)
    (hhdr : hdrCount (c!"." ++ seg.name) script ≤ 1) :
    ∃ os ∈ (link objs defsyms script).secs, os.name = c!"." ++ seg.name ∧ os.noload = false ∧
      (link objs defsyms script).sym (d.settings.style.segVramStart seg.name) = some os.addr ∧
      (assignCount (d.settings.style.segVramEnd seg.name) script ≤ 1 →
        ∃ e, (link objs defsyms script).sym (d.settings.style.segVramEnd seg.name) = some e ∧ os.addr + os.size ≤ e) :=
  vram_start_main objs (MainScript.normal d o vc script hmulti h hall) defsyms pre post seg hsplit hinc hcnt hhdr

/-- `final_vram_start` for the main script of partial mode. -/
theorem final_vram_start_partial (objs : List InSec) (d : Document) (o : Opts) (vc : Bool) (out : PartialOut)
    (h : generatePartial d o vc = .ok out)
    (hall : ∀ s ∈ d.segments, shouldEmit o s.cond = true → s.allocSections ≠ [])
    (defsyms : List (Str × Nat)) (folder : Str) (hfolder : d.settings.partialBuildSegmentsFolder = some folder)
    (pre post : List Segment) (seg : Segment) (hsplit : partialSegs d o folder = pre ++ seg :: post)
    (hcnt : assignCount (d.settings.style.segVramStart seg.name) out.main ≤ 1)
    (hhdr : hdrCount (c!"." ++ seg.name) out.main ≤ 1) :
    ∃ os ∈ (link objs defsyms out.main).secs, os.name = c!"." ++ seg.name ∧ os.noload = false ∧
      (link objs defsyms out.main).sym (d.settings.style.segVramStart seg.name) = some os.addr ∧
      (assignCount (d.settings.style.segVramEnd seg.name) out.main ≤ 1 →
        ∃ e, (link objs defsyms out.main).sym (d.settings.style.segVramEnd seg.name) = some e ∧ os.addr + os.size ≤ e) :=
  vram_start_main objs (MainScript.partial d o vc out h hall folder hfolder) defsyms pre post seg hsplit
    (partialSegs_split_emitted hsplit) hcnt hhdr

/-- the hypotheses are met and the numbers are real: in the example document of `Props/Example.lean`, `main_VRAM` is the
address of `.main`, 0x80000080, and `main_VRAM_END` lies 13 bytes of `.text` and `.data` behind it. -/
example : (match generateNormal C04.exDoc C04.exOpts false with
    | .ok script =>
      decide (assignCount c!"main_VRAM" script = 1) && decide (hdrCount c!".main" script = 1)
      && decide ((link C04.exObjs [] script).sym c!"main_VRAM" = some 0x80000080)
      && decide ((link C04.exObjs [] script).sym c!"main_VRAM_END" = some 0x8000008D)
      && (link C04.exObjs [] script).secs.any (fun os => os.name = c!".main" && os.addr = 0x80000080 && os.size = 13)
    | .error _ => false) = true := by decide_with C04.exImage_eq

end Slinky.C03
