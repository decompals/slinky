/-
  C08, "every other setting takes its documented default when omitted" — tied to the source text.
  `Src.defaults` (lean/Src/Tables.lean) is written by tools/extract_tables.py from the `settings_default_*`
  functions and `impl Default for Settings` of /repo/slinky/src/settings.rs on every check run, so a changed
  default breaks a proof even if no generated document relies on it.
-/
import Src.Tables
namespace Slinky.C08

theorem defaults_are_the_sources : Src.defaults = ({} : Settings) := rfl

/-- the documented defaults of `docs/file_format/settings.md`. -/
theorem source_default_lists :
    Src.defaults.allocSections = [c!".text", c!".data", c!".rodata", c!".sdata"] ∧
    Src.defaults.noloadSections = [c!".sbss", c!".scommon", c!".bss", c!"COMMON"] ∧
    Src.defaults.fillValue = some 0 ∧ Src.defaults.wildcardSections = true ∧
    Src.defaults.subalign = none ∧ Src.defaults.sectionsSubgroups = [] ∧
    Src.defaults.discardWildcardSection = true ∧ Src.defaults.symbolsHeaderType = c!"char" := by
  refine ⟨rfl, rfl, rfl, rfl, rfl, rfl, rfl, rfl⟩

end Slinky.C08
