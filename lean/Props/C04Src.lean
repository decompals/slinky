/-
  C04, the statements that move and record the ROM position — tied to the source text
  (lean/Src/Formats.lean, regenerated from linker_writer.rs / script_buffer.rs on every run).
-/
import Src.Formats
import Slinkyv.Writer
import Props.Render
namespace Slinky.C04

theorem rompos_init_src :
    (Line.assign c!"__romPos" (.hex 0) false false false).renderBody = fmt Src.lw__begin_sections_1 [] := rfl

theorem rompos_advance_src (name : Str) :
    (Line.addAssign c!"__romPos" (.sizeofE (c!"." ++ name))).renderBody = fmt Src.lw__add_segment_7 [.s name] := by
  unfold Line.renderBody Expr.render Src.lw__add_segment_7
  simp only [fmtNorm]
  rfl

/-- `align_symbol("__romPos", a)` before and after the segment. -/
theorem rompos_align_src (a : Nat) :
    (alignSymbol c!"__romPos" a).renderBody
      = fmt Src.sb__align_symbol_0 [.s (fmt Src.lw__add_segment_3 []), .s (fmt Src.lw__add_segment_3 []), .n a]
    ∧ Src.lw__add_segment_3 = Src.lw__add_segment_8 := by
  constructor
  · unfold alignSymbol Line.renderBody Expr.render Src.sb__align_symbol_0 Src.lw__add_segment_3
    simp only [fmtNorm]
    rfl
  · rfl

/-- `<seg>_ROM_START = __romPos` and `<seg>_ROM_END = __romPos`. -/
theorem rom_symbols_src (sym : Str) :
    (linkerSym sym (.sym c!"__romPos")).renderBody
      = fmt Src.sb__write_symbol_assignment_3 [.s sym, .s (fmt Src.lw__add_segment_5 [])]
    ∧ Src.lw__add_segment_5 = Src.lw__add_segment_11 := by
  constructor
  · unfold linkerSym Line.renderBody Expr.render Src.sb__write_symbol_assignment_3 Src.lw__add_segment_5
    simp only [fmtNorm]
  · rfl

theorem size_src (size end_ start : Str) :
    (linkerSym size (.absSub end_ start)).renderBody
      = fmt Src.sb__write_symbol_assignment_3 [.s size, .s (fmt Src.lw__write_sym_end_size_0 [.s end_, .s start])] := by
  unfold linkerSym Line.renderBody Expr.render Src.sb__write_symbol_assignment_3 Src.lw__write_sym_end_size_0
  simp only [fmtNorm]

theorem counts_src : Src.lw__add_segment_count = 12 ∧ Src.lw__begin_sections_count = 3
    ∧ Src.lw__write_sym_end_size_count = 1 ∧ Src.sb__align_symbol_count = 1 := ⟨rfl, rfl, rfl, rfl⟩

end Slinky.C04
