/-
  C11, the two-step clause over the linker semantics: `exec` (Slinkyv.Ld) places exactly what
  `takes` (Slinkyv.Ld2) lists; the two-step link of partial mode puts the input sections in
  the order of the one-step link when no listed section name is grabbed by the pattern of an
  earlier one — and does not otherwise (a concrete counterexample, `grab_breaks_order`).
-/
import Props.Image
namespace Slinky.C11
open Slinky Ld

def takenOf (st : St) : List InSec := st.placed.map (·.inp) ++ st.discarded

theorem isFree_eq (st : St) (i : InSec) : isFree st i = !isTaken (takenOf st) i := by
  unfold isFree isTaken takenOf
  simp [List.any_append, List.any_map, Bool.not_or, Function.comp_def]

theorem isTaken_append (a b : List InSec) (i : InSec) : isTaken (a ++ b) i = (isTaken a i || isTaken b i) :=
  List.any_append

/-- the invariant of `exec_tracks`: `t` holds the input sections that are no longer free in `st`. Same members, not
the same list: `takes` appends in the order of taking, the state keeps what is placed and what is discarded apart. -/
def Tracks (t : List InSec) (st : St) : Prop := ∀ i, isTaken (takenOf st) i = isTaken t i

theorem Tracks.filter {t : List InSec} {st : St} (h : Tracks t st) (objs : List InSec) (f : InSec → Bool) :
    (objs.filter fun i => f i && isFree st i) = objs.filter fun i => f i && !isTaken t i :=
  congrArg (List.filter · objs) (funext fun i => by rw [isFree_eq, h i])

theorem placeAll_fields (out : Str) (sub : Option Nat) (l : List InSec) (st : St) :
    (placeAll out sub st l).placed.map (·.inp) = st.placed.map (·.inp) ++ l ∧
    (placeAll out sub st l).discarded = st.discarded ∧
    (placeAll out sub st l).cur = st.cur ∧
    (placeAll out sub st l).inDiscard = st.inDiscard := by
  obtain ⟨h1, h2, -, -, -, h6, new, hp, -, hm, -⟩ := placeAll_spec out sub l st
  exact ⟨by rw [hp, List.map_append, hm], h6, h1, h2⟩

theorem Tracks.place {t s : List InSec} {st st' : St} (h : Tracks t st)
    (hp : st'.placed.map (·.inp) = st.placed.map (·.inp) ++ s) (hd : st'.discarded = st.discarded) : Tracks (t ++ s) st' := by
  intro i
  rw [takenOf, hp, hd, isTaken_append, isTaken_append, isTaken_append, Bool.or_right_comm, ← isTaken_append, ← h i]
  rfl

theorem Tracks.discard {t s : List InSec} {st st' : St} (h : Tracks t st)
    (hp : st'.placed = st.placed) (hd : st'.discarded = st.discarded ++ s) : Tracks (t ++ s) st' := by
  intro i
  rw [takenOf, hp, hd, ← List.append_assoc, isTaken_append, isTaken_append t, ← h i]
  rfl

theorem exec_tracks (objs : List InSec) : ∀ (ls : List Line) (st : St) (t : List InSec), Tracks t st →
    (exec objs st ls).placed.map (·.inp) = st.placed.map (·.inp) ++ takes objs st.cur.isSome st.inDiscard t ls := by
  intro ls
  induction ls with
  | nil => intro st t _; exact (List.append_nil _).symm
  | cons l rest ih =>
    intro st t h
    rw [exec]
    cases l with
    | input k p m s w =>
      cases hc : st.cur with
      | none =>
        have e : step objs st (.input k p m s w) rest = st := by rw [step, hc]
        rw [e, ih st t h, hc]; rfl
      | some c =>
        have e : step objs st (.input k p m s w) rest = placeAll c.name c.subalign st (takes.sel objs p m s w t) := by
          rw [step, hc]; exact congrArg _ (h.filter objs _)
        obtain ⟨h1, h2, h3, h4⟩ := placeAll_fields c.name c.subalign (takes.sel objs p m s w t) st
        rw [e, ih _ _ (h.place h1 h2), h1, h3, h4, hc, List.append_assoc]; rfl
    | singleEntry sec a =>
      obtain ⟨h1, h2, h3, h4⟩ := placeAll_fields sec none (takes.selSec objs sec t) { st with dot := (operand st a).getD st.dot }
      rw [step, show (objs.filter fun i => decide (i.sec = sec) && isFree st i) = takes.selSec objs sec t from h.filter objs _]
      refine Eq.trans (ih _ _ (Tracks.place (st := st) h h1 h2)) ?_
      simp only [h1, h3, h4, List.append_assoc]; rfl
    | discardPat pat =>
      cases hd : st.inDiscard with
      | false =>
        rw [step, hd, if_neg Bool.false_ne_true, ih st t h, hd]; rfl
      | true =>
        rw [step, hd, if_pos rfl, show (objs.filter fun i => (decide (pat = c!"*") || decide (i.sec = pat)) && isFree st i)
          = takes.selPat objs pat t from h.filter objs _]
        refine Eq.trans (ih _ _ (Tracks.discard (st := st) h rfl rfl)) ?_
        rfl
    -- the other statements take nothing, and `takes` changes its mode as `step` does: `ih` fits by computation
    | discardHdr => exact ih _ t h
    | outHdr n nl a lma sub => exact ih _ t h
    | blockClose =>
      rw [step]
      cases hc : st.cur with
      | none => exact ih _ t h
      | some c => simp only; split <;> exact ih _ t h
    | assign s e p hh lk =>
      rw [step]
      split
      · exact ih _ t h
      · split
        · split <;> exact ih _ t h
        · exact ih _ t h
    | addAssign s e =>
      rw [step]
      split
      · exact ih _ t h
      · split
        · split <;> exact ih _ t h
        · split <;> exact ih _ t h
    | _ => exact ih _ t h

/-- **`Ld.exec` places exactly what `takes` lists, in that order**: `takes` (Slinkyv/Ld2.lean) is the
placement part of `exec` without addresses; of the state it follows only whether it is inside an
output section, inside `/DISCARD/`, and what is taken. -/
theorem exec_takes (objs : List InSec) : ∀ (ls : List Line) (st : St),
    (exec objs st ls).placed.map (·.inp)
      = st.placed.map (·.inp) ++ takes objs st.cur.isSome st.inDiscard (takenOf st) ls :=
  fun ls st => exec_tracks objs ls st (takenOf st) fun _ => rfl

/-- the order of the one-step link is the order of the input sections in the image `Ld.exec` builds. -/
theorem oneStep_is_exec (objs : List InSec) (script : List Line) :
    (exec objs {} script).placed.map (·.inp) = oneStep objs script := by
  rw [exec_takes]
  rfl

def isInputB : Line → Bool
  | .input _ _ _ _ _ => true
  | _ => false

/-- a statement is an input statement, or `takeSeq` skips it (an eliminator: `cases l using inputCases`). -/
theorem inputCases {motive : Line → Prop} (l : Line) (input : ∀ k p m s w, motive (.input k p m s w))
    (other : isInputB l = false → (∀ objs t rest, takeSeq objs t (l :: rest) = takeSeq objs t rest) → motive l) : motive l := by
  cases l with
  | input k p m s w => exact input k p m s w
  | _ => exact other rfl fun _ _ _ => rfl

theorem takeSeq_append (objs : List InSec) : ∀ (a b : List Line) (taken : List InSec),
    takeSeq objs taken (a ++ b) = takeSeq objs taken a ++ takeSeq objs (taken ++ takeSeq objs taken a) b := by
  intro a
  induction a with
  | nil => intro b taken; simp [takeSeq]
  | cons l rest ih =>
    intro b taken
    cases l using inputCases with
    | input k p m s w => simp only [List.cons_append, takeSeq, ih, List.append_assoc]
    | other _ skip => rw [List.cons_append, skip, skip]; exact ih b taken

theorem takeSeq_filter (objs : List InSec) : ∀ (B : List Line) (t : List InSec),
    takeSeq objs t (B.filter isInputB) = takeSeq objs t B := by
  intro B
  induction B with
  | nil => intro t; rfl
  | cons l rest ih =>
    intro t
    cases l using inputCases with
    | input k p m s w => rw [List.filter_cons_of_pos rfl, takeSeq, takeSeq, ih]
    | other hl skip => rw [List.filter_cons_of_neg (by rw [hl]; exact Bool.false_ne_true), skip]; exact ih t

def selectable (B : List Line) (i : InSec) : Bool :=
  B.any fun l => match l with
    | .input _ p m s w => selects p m s w i
    | _ => false

theorem selectable_head {k : Bool} {p : Str} {m : Option Str} {s : Str} {w : Bool} {B : List Line} {i : InSec}
    (h : selects p m s w i = true) : selectable (.input k p m s w :: B) i = true :=
  (congrArg (· || selectable B i) h).trans (Bool.true_or _)

theorem selectable_tail {l : Line} {B : List Line} {i : InSec} (h : selectable B i = true) : selectable (l :: B) i = true :=
  (congrArg (_ || ·) h).trans (Bool.or_true _)

/-- **statements only see what they can select and what is still free**: when every input
statement of `B` selects only input sections satisfying `p`, two object tables, each with what
is already taken from it, that hold the same free input sections satisfying `p` give the same result. -/
theorem takeSeq_congr (p : InSec → Bool) : ∀ (B : List Line) (L L' t t' : List InSec),
    (∀ i, selectable B i = true → p i = true) →
    (L.filter fun i => p i && !isTaken t i) = (L'.filter fun i => p i && !isTaken t' i) →
    takeSeq L t B = takeSeq L' t' B := by
  intro B
  induction B with
  | nil => intro L L' t t' _ _; rfl
  | cons l rest ih =>
    intro L L' t t' h hL
    have hrest : ∀ i, selectable rest i = true → p i = true := fun i hi => h i (selectable_tail hi)
    cases l using inputCases with
    | input k pth m sc w =>
      -- what the statement selects is among the free sections satisfying `p`
      have hsel : ∀ (L t : List InSec), takes.sel L pth m sc w t
          = (L.filter fun i => p i && !isTaken t i).filter (selects pth m sc w) := by
        intro L t
        rw [List.filter_filter]
        refine List.filter_congr fun i _ => ?_
        cases hs : selects pth m sc w i
        · rfl
        · rw [h i (selectable_head hs)]; rfl
      -- and taking it leaves the same free sections in both tables
      have hnext : ∀ (L t s : List InSec), (L.filter fun i => p i && !isTaken (t ++ s) i)
          = (L.filter fun i => p i && !isTaken t i).filter fun i => !isTaken s i := by
        intro L t s
        rw [List.filter_filter]
        refine List.filter_congr fun i _ => ?_
        rw [isTaken_append, Bool.not_or, ← Bool.and_assoc, Bool.and_comm]
      rw [takeSeq, takeSeq, hsel L, hsel L', hL]
      exact congrArg _ (ih _ _ _ _ hrest (by rw [hnext L, hnext L', hL]))
    | other _ skip => rw [skip, skip]; exact ih L L' t t' hrest hL

theorem isTaken_filter (p : InSec → Bool) (taken : List InSec) (i : InSec) (hi : p i = true) :
    isTaken (taken.filter p) i = isTaken taken i := by
  unfold isTaken
  rw [List.any_filter]
  congr 1
  funext x
  by_cases e : x = i
  · rw [e, hi]; rfl
  · rw [decide_eq_false e, Bool.and_false]

/-- statements only see what they can select: everything that does not satisfy `p`, in the object
table and among what is already taken, is irrelevant. -/
theorem takeSeq_restrict (p : InSec → Bool) : ∀ (B : List Line) (L taken : List InSec),
    (∀ i, selectable B i = true → p i = true) →
    takeSeq L taken B = takeSeq (L.filter p) (taken.filter p) B := by
  intro B L taken h
  refine takeSeq_congr p B L _ taken _ h ?_
  rw [List.filter_filter]
  refine List.filter_congr fun i _ => ?_
  cases hp : p i
  · rfl
  · rw [isTaken_filter p taken i hp, Bool.and_true]

theorem takeSeq_fresh (objs : List InSec) (B : List Line) (T : List InSec)
    (hT : ∀ i ∈ T, selectable B i = false) : takeSeq objs T B = takeSeq objs [] B := by
  refine takeSeq_congr (selectable B) B objs objs T [] (fun _ h => h) (List.filter_congr fun i _ => ?_)
  cases hs : selectable B i
  · rfl
  · have : isTaken T i = false := List.any_eq_false.2 fun x hx e =>
      Bool.noConfusion ((hT x hx).symm.trans (of_decide_eq_true e ▸ hs))
    rw [this]; rfl

theorem takeSeq_mem (objs : List InSec) : ∀ (B : List Line) (taken : List InSec) (i : InSec),
    i ∈ takeSeq objs taken B → i ∈ objs ∧ selectable B i = true := by
  intro B
  induction B with
  | nil => intro taken i h; cases h
  | cons l rest ih =>
    intro taken i h
    cases l using inputCases with
    | input k pth m sc w =>
      rcases List.mem_append.1 h with h | h
      · have := List.mem_filter.1 h
        exact ⟨this.1, selectable_head (Bool.and_eq_true_iff.1 this.2).1⟩
      · exact ⟨(ih _ i h).1, selectable_tail (ih _ i h).2⟩
    | other _ skip => rw [skip] at h; exact ⟨(ih _ i h).1, selectable_tail (ih _ i h).2⟩

/-- blocks of statements `f a` of which no two can select the same input section of the table,
and none anything already taken: each block takes what it takes alone. -/
theorem takeSeq_flatMap {α} (objs : List InSec) (f : α → List Line) : ∀ (l : List α) (T : List InSec),
    l.Pairwise (fun a b => ∀ i ∈ objs, selectable (f a) i = true → selectable (f b) i = false) →
    (∀ i ∈ T, ∀ a ∈ l, selectable (f a) i = false) →
    takeSeq objs T (l.flatMap f) = l.flatMap fun a => takeSeq objs [] (f a) := by
  intro l
  induction l with
  | nil => intro T _ _; rfl
  | cons a rest ih =>
    intro T hpw hT
    have hpw' := List.pairwise_cons.1 hpw
    rw [List.flatMap_cons, List.flatMap_cons, takeSeq_append, takeSeq_fresh objs (f a) T fun i hi => hT i hi a List.mem_cons_self]
    refine congrArg _ (ih _ hpw'.2 fun i hi b hb => ?_)
    rcases List.mem_append.1 hi with hi | hi
    · exact hT i hi b (List.mem_cons_of_mem _ hb)
    · exact hpw'.1 b hb i (takeSeq_mem objs (f a) [] i hi).1 (takeSeq_mem objs (f a) [] i hi).2

/-- the input statements that sit inside output sections. -/
def blockInputs : Bool → List Line → List Line
  | _, [] => []
  | b, l :: rest =>
    match l with
    | .outHdr _ _ _ _ _ => blockInputs true rest
    | .blockClose => blockInputs false rest
    | .input k p m s w => if b then .input k p m s w :: blockInputs b rest else blockInputs b rest
    | _ => blockInputs b rest

def plain : Line → Bool
  | .singleEntry _ _ => false
  | .discardHdr => false
  | .discardPat _ => false
  | _ => true

theorem takes_plain (objs : List InSec) : ∀ (ls : List Line) (b : Bool) (taken : List InSec), (∀ l ∈ ls, plain l = true) →
    takes objs b false taken ls = takeSeq objs taken (blockInputs b ls) := by
  intro ls
  induction ls with
  | nil => intro b taken _; rfl
  | cons l rest ih =>
    intro b taken hp
    have hrest : ∀ l ∈ rest, plain l = true := fun x hx => hp x (List.mem_cons_of_mem _ hx)
    have hl := hp l List.mem_cons_self
    cases l with
    | singleEntry | discardHdr | discardPat => cases hl
    | outHdr => exact ih true taken hrest
    | blockClose => cases b <;> exact ih false taken hrest
    | input k p m s w =>
      cases b
      · exact ih false taken hrest
      · simp only [takes, blockInputs, if_true, takeSeq, ih _ _ hrest]
    | _ => exact ih b taken hrest

def secOfName (obj n : Str) : InSec := ⟨obj, none, n, 0, 1⟩

theorem secOfName_inj (obj a b : Str) (h : secOfName obj a = secOfName obj b) : a = b := by
  unfold secOfName at h
  injection h

/-- the statement of the main script for group `g` of the segment whose partial object is `obj`. -/
def mainStmt (obj : Str) (wild : Bool) (g : Str) : Line := .input false obj none g wild

/-- the pattern of group `a` also matches the name `b`. -/
def grabs (wild : Bool) (a b : Str) : Bool := if wild then a.isPrefixOf b else b = a

theorem selects_comp (obj g n : Str) (wild : Bool) : selects obj none g wild (secOfName obj n) = grabs wild g n := by
  unfold selects secOfName grabs
  simp

theorem relinkBlocks_spec (objs : List InSec) (obj : Str) : ∀ (groups : List (Str × List Line)) (taken : List InSec),
    (∀ c ∈ relinkBlocks objs obj taken groups, c.obj = obj) ∧
    ((relinkBlocks objs obj taken groups).map (·.name)).Sublist (groups.map (·.1)) := by
  intro groups
  induction groups with
  | nil => intro taken; exact ⟨fun c hc => (nomatch hc), List.Sublist.slnil⟩
  | cons gb rest ih =>
    intro taken
    obtain ⟨g, body⟩ := gb
    unfold relinkBlocks
    dsimp only
    split
    · exact ⟨(ih taken).1, List.Sublist.cons _ (ih taken).2⟩
    · refine ⟨fun c hc => ?_, List.Sublist.cons_cons _ (ih _).2⟩
      rcases List.mem_cons.1 hc with rfl | hc
      · rfl
      · exact (ih _).1 c hc

theorem sec_nodup_of_names (comps : List Comp) (h : (comps.map (·.name)).Nodup) : (comps.map (·.sec)).Nodup := by
  rw [List.nodup_iff_pairwise_ne, List.pairwise_map] at h ⊢
  refine h.imp ?_
  intro a b hne e
  apply hne
  unfold Comp.sec at e
  injection e

theorem relinkBlocks_items (objs : List InSec) (obj : Str) : ∀ (groups : List (Str × List Line)) (taken : List InSec),
    (relinkBlocks objs obj taken groups).flatMap (·.items) = takeSeq objs taken (groups.flatMap (·.2)) := by
  intro groups
  induction groups with
  | nil => intro taken; simp [relinkBlocks, takeSeq]
  | cons gb rest ih =>
    intro taken
    obtain ⟨g, body⟩ := gb
    unfold relinkBlocks
    simp only [List.flatMap_cons, takeSeq_append]
    split
    · rename_i he
      have : takeSeq objs taken body = [] := List.isEmpty_iff.1 he
      rw [ih, this]
      simp
    · simp only [List.flatMap_cons, ih]

theorem filter_mid {α} (p : α → Bool) (A B C : List α) (hA : ∀ x ∈ A, p x = false) (hB : ∀ x ∈ B, p x = true)
    (hC : ∀ x ∈ C, p x = false) : (A ++ (B ++ C)).filter p = B := by
  rw [List.filter_append, List.filter_append, List.filter_eq_self.2 hB,
    List.filter_eq_nil_iff.2 fun x hx => by rw [hA x hx]; exact Bool.false_ne_true,
    List.filter_eq_nil_iff.2 fun x hx => by rw [hC x hx]; exact Bool.false_ne_true, List.nil_append, List.append_nil]

/-- the main script over the composites of one partial object: when no group's pattern grabs
the name of a later group, every statement selects the composite of its own group and nothing else. -/
theorem main_selects_own (objs : List InSec) (obj : Str) (wild : Bool) :
    ∀ (groups : List (Str × List Line)) (done : List Str) (takenP : List InSec),
      (groups.map (·.1)).Nodup → (∀ g ∈ groups.map (·.1), g ∉ done) →
      groups.Pairwise (fun a b => grabs wild a.1 b.1 = false) →
      takeSeq ((done.map (secOfName obj)) ++ (relinkBlocks objs obj takenP groups).map (·.sec)) (done.map (secOfName obj))
          (groups.map fun g => mainStmt obj wild g.1)
        = (relinkBlocks objs obj takenP groups).map (·.sec) := by
  intro groups
  induction groups with
  | nil => intro done takenP _ _ _; rfl
  | cons gb rest ih =>
    intro done takenP hnd hdone hpw
    obtain ⟨g, body⟩ := gb
    have hnd' : g ∉ rest.map (·.1) ∧ (rest.map (·.1)).Nodup := List.nodup_cons.1 hnd
    have hpw' := List.pairwise_cons.1 hpw
    -- the composites `xs` of `g` (none or one), then those of the later groups: `g`'s statement selects `xs`
    have step : ∀ (xs : List Str) (tk : List InSec), (∀ x ∈ xs, x = g) →
        takeSeq (done.map (secOfName obj) ++ (xs.map (secOfName obj) ++ (relinkBlocks objs obj tk rest).map (·.sec)))
            (done.map (secOfName obj)) (mainStmt obj wild g :: rest.map fun g => mainStmt obj wild g.1)
          = xs.map (secOfName obj) ++ (relinkBlocks objs obj tk rest).map (·.sec) := by
      intro xs tk hxs
      have hsel : takes.sel (done.map (secOfName obj) ++ (xs.map (secOfName obj) ++ (relinkBlocks objs obj tk rest).map (·.sec)))
          obj none g wild (done.map (secOfName obj)) = xs.map (secOfName obj) := by
        refine filter_mid _ _ _ _ (fun x hx => ?_) (fun x hx => ?_) (fun x hx => ?_)
        · -- already taken
          have : isTaken (done.map (secOfName obj)) x = true := List.any_eq_true.2 ⟨x, hx, decide_eq_true rfl⟩
          rw [this, Bool.not_true, Bool.and_false]
        · -- its own composite: selected, and not taken since `g` is not done
          obtain ⟨n, hn, rfl⟩ := List.mem_map.1 hx
          have hnt : isTaken (done.map (secOfName obj)) (secOfName obj n) = false :=
            List.any_eq_false.2 fun y hy e => by
              obtain ⟨d, hd, rfl⟩ := List.mem_map.1 hy
              exact hdone g List.mem_cons_self (hxs n hn ▸ secOfName_inj obj d n (of_decide_eq_true e) ▸ hd)
          rw [selects_comp, hnt, hxs n hn]
          unfold grabs; split <;> simp
        · -- a composite of a later group: not grabbed
          obtain ⟨c, hc, rfl⟩ := List.mem_map.1 hx
          obtain ⟨ho, hn⟩ := relinkBlocks_spec objs obj rest tk
          obtain ⟨gb', hgb', hname⟩ := List.mem_map.1 (hn.subset (List.mem_map_of_mem hc))
          rw [Comp.sec, ho c hc, ← hname, ← secOfName, selects_comp, hpw'.1 gb' hgb']
          rfl
      have := ih (done ++ xs) tk hnd'.2
        (fun g' hg' hmem => (List.mem_append.1 hmem).elim (hdone g' (List.mem_cons_of_mem _ hg'))
          (fun h => hnd'.1 (hxs g' h ▸ hg')))
        hpw'.2
      rw [List.map_append, List.append_assoc] at this
      rw [mainStmt, takeSeq, hsel, this]
    unfold relinkBlocks
    dsimp only [List.map_cons]
    split
    · exact step [] takenP (fun _ h => nomatch h)
    · exact step [g] _ (fun _ h => List.mem_singleton.1 h)

theorem filter_flatMap_own {α β γ} [DecidableEq γ] (key : α → γ) (kb : β → γ) (f : α → List β)
    (hk : ∀ a, ∀ b ∈ f a, kb b = key a) : ∀ (l : List α), (l.map key).Nodup → ∀ a ∈ l,
    (l.flatMap f).filter (fun b => decide (kb b = key a)) = f a := by
  intro l
  induction l with
  | nil => intro _ a ha; cases ha
  | cons x xs ih =>
    intro hnd a ha
    have hnd' : key x ∉ xs.map key ∧ (xs.map key).Nodup := List.nodup_cons.1 hnd
    have other : ∀ {u v : α}, key u ≠ key v → (f u).filter (fun b => decide (kb b = key v)) = [] :=
      fun hne => List.filter_eq_nil_iff.2 fun b hb e => hne ((hk _ b hb).symm.trans (of_decide_eq_true e))
    rw [List.flatMap_cons, List.filter_append]
    rcases List.mem_cons.1 ha with rfl | ha
    · rw [List.filter_eq_self.2 fun b hb => decide_eq_true (hk a b hb), List.filter_flatMap, List.append_right_eq_self]
      exact List.flatMap_eq_nil_iff.2 fun u hu => other fun e => hnd'.1 (e ▸ List.mem_map_of_mem hu)
    · rw [other (u := x) fun e => hnd'.1 (e.symm ▸ List.mem_map_of_mem ha), ih hnd'.2 a ha, List.nil_append]

theorem flatMap_congr_mem {α β} (f g : α → List β) (l : List α) (h : ∀ x ∈ l, f x = g x) : l.flatMap f = l.flatMap g :=
  congrArg List.flatten (List.map_congr_left h)

theorem expand_self (comps : List Comp) (hnd : (comps.map (·.sec)).Nodup) :
    expand comps (comps.map (·.sec)) = comps.flatMap (·.items) := by
  unfold expand
  rw [List.flatMap_map]
  apply flatMap_congr_mem
  intro c hc
  have := filter_flatMap_own Comp.sec Comp.sec (fun c => [c]) (fun _ _ h => congrArg _ (List.mem_singleton.1 h)) comps hnd c hc
  rw [List.flatMap_singleton'] at this
  rw [this, List.flatMap_singleton]

/-- the scripts of one segment: its partial object, the segment's `wildcard_sections`, and the
output sections of its partial script with their statements. -/
structure SegScripts where
  obj : Str
  wild : Bool
  groups : List (Str × List Line)

def SegScripts.mainStmts (s : SegScripts) : List Line := s.groups.map fun g => mainStmt s.obj s.wild g.1
def SegScripts.body (s : SegScripts) : List Line := s.groups.flatMap (·.2)
def SegScripts.comps (objs : List InSec) (s : SegScripts) : List Comp := relinkBlocks objs s.obj [] s.groups
def SegScripts.ok (s : SegScripts) : Prop :=
  (s.groups.map (·.1)).Nodup ∧ s.groups.Pairwise (fun a b => grabs s.wild a.1 b.1 = false)

theorem mainStmts_select_own (s : SegScripts) (i : InSec) (h : selectable s.mainStmts i = true) : (decide (i.path = s.obj)) = true := by
  unfold selectable SegScripts.mainStmts at h
  rw [List.any_map] at h
  obtain ⟨g, _, hg⟩ := List.any_eq_true.1 h
  simp only [Function.comp, mainStmt] at hg
  unfold selects at hg
  simp only [Bool.and_eq_true, decide_eq_true_eq] at hg
  simp [hg.1.1]

theorem comps_obj (objs : List InSec) (s : SegScripts) : ∀ c ∈ s.comps objs, c.sec.path = s.obj := by
  intro c hc
  exact (relinkBlocks_spec objs s.obj s.groups []).1 c hc

theorem main_selects_document (objs : List InSec) (segs : List SegScripts) (hok : ∀ s ∈ segs, s.ok)
    (hnd : (segs.map (·.obj)).Nodup) :
    takeSeq (segs.flatMap fun s => (s.comps objs).map (·.sec)) [] (segs.flatMap (·.mainStmts))
      = segs.flatMap fun s => (s.comps objs).map (·.sec) := by
  rw [takeSeq_flatMap _ SegScripts.mainStmts segs []
    ((List.pairwise_map.1 hnd).imp fun hne i _ ha => Bool.eq_false_iff.2 fun hb =>
      hne ((of_decide_eq_true (mainStmts_select_own _ i ha)).symm.trans (of_decide_eq_true (mainStmts_select_own _ i hb))))
    (fun _ h => nomatch h)]
  refine flatMap_congr_mem _ _ segs fun s hs => ?_
  -- the statements of `s` see the composites of `s` only
  rw [takeSeq_restrict (fun i => decide (i.path = s.obj)) s.mainStmts _ [] (mainStmts_select_own s),
    filter_flatMap_own SegScripts.obj InSec.path _ (fun s' x hx => by
      obtain ⟨c, hc, rfl⟩ := List.mem_map.1 hx; exact comps_obj objs s' c hc) segs hnd s hs]
  exact main_selects_own objs s.obj s.wild s.groups [] [] (hok s hs).1 (fun _ _ h => nomatch h) (hok s hs).2

theorem comps_sec_nodup (objs : List InSec) (segs : List SegScripts) (hok : ∀ s ∈ segs, s.ok) (hnd : (segs.map (·.obj)).Nodup) :
    ((segs.flatMap fun s => s.comps objs).map (·.sec)).Nodup := by
  rw [List.map_flatMap, List.Nodup, List.pairwise_flatMap]
  refine ⟨fun s hs => sec_nodup_of_names _ ((relinkBlocks_spec objs s.obj s.groups []).2.nodup (hok s hs).1),
    (List.pairwise_map.1 hnd).imp fun hne x hx y hy e => ?_⟩
  obtain ⟨c, hc, rfl⟩ := List.mem_map.1 hx
  obtain ⟨c', hc', rfl⟩ := List.mem_map.1 hy
  exact hne ((comps_obj objs _ c hc).symm.trans ((congrArg InSec.path e).trans (comps_obj objs _ c' hc')))

/-- **C11, two-step clause (whole documents)**: every segment has its own partial object, its
group names are pairwise different and no group's pattern matches a later group's name, and no
input section is selectable by the statements of two segments (no file listed in two segments).
Then linking every partial script relocatably and the main script over the partial objects puts
all input sections in exactly the order of the one-step link. -/
theorem two_step_document_order (objs : List InSec) (segs : List SegScripts)
    (hok : ∀ s ∈ segs, s.ok) (hobj : (segs.map (·.obj)).Nodup)
    (hdisj : segs.Pairwise (fun a b => ∀ i ∈ objs, selectable a.body i = true → selectable b.body i = false)) :
    expand (segs.flatMap fun s => s.comps objs)
        (takeSeq ((segs.flatMap fun s => s.comps objs).map (·.sec)) [] (segs.flatMap (·.mainStmts)))
      = takeSeq objs [] (segs.flatMap (·.body)) := by
  rw [List.map_flatMap, main_selects_document objs segs hok hobj, ← List.map_flatMap,
    expand_self _ (comps_sec_nodup objs segs hok hobj),
    takeSeq_flatMap objs SegScripts.body segs [] hdisj (fun _ h => nomatch h), List.flatMap_assoc]
  exact flatMap_congr_mem _ _ segs fun s _ => relinkBlocks_items objs s.obj s.groups []

/-- the same for the scripts themselves: partial scripts whose output sections are the segments'
groups, a main script part whose statements inside output sections are the segments' statements
for their partial objects, an ordinary script part holding the segments' own statements. -/
theorem two_step_document_same_order (objs : List InSec) (segs : List SegScripts)
    (partials : List (Str × List Line)) (mainPart ordinaryPart : List Line)
    (hP : (partials.map fun p => (p.1, blocksOf p.2)) = segs.map fun s => (s.obj, s.groups))
    (hM : blockInputs false mainPart = segs.flatMap (·.mainStmts)) (hMp : ∀ l ∈ mainPart, plain l = true)
    (hO : takeSeq objs [] (blockInputs false ordinaryPart) = takeSeq objs [] (segs.flatMap (·.body)))
    (hOp : ∀ l ∈ ordinaryPart, plain l = true)
    (hok : ∀ s ∈ segs, s.ok) (hobj : (segs.map (·.obj)).Nodup)
    (hdisj : segs.Pairwise (fun a b => ∀ i ∈ objs, selectable a.body i = true → selectable b.body i = false)) :
    twoStep objs partials mainPart = oneStep objs ordinaryPart := by
  have hc : (partials.flatMap fun p => relink objs p.1 p.2) = segs.flatMap fun s => s.comps objs := by
    have h1 : (partials.flatMap fun p => relink objs p.1 p.2)
        = (partials.map fun p => (p.1, blocksOf p.2)).flatMap fun q => relinkBlocks objs q.1 [] q.2 := by
      rw [List.flatMap_map]; rfl
    rw [h1, hP, List.flatMap_map]
    rfl
  unfold twoStep oneStep
  simp only [hc]
  rw [takes_plain _ _ _ _ hMp, takes_plain _ _ _ _ hOp, hM, hO]
  exact two_step_document_order objs segs hok hobj hdisj

/-- **C11, two-step clause (one segment)**: `groups` are the output sections of the segment's
partial script with their statements; the main script places the partial object `obj` once per
group (`obj(g)` or `obj(g*)`). The two-step link puts the input sections in exactly the order in
which the same statements, run in one link, take them. -/
theorem two_step_segment_order (objs : List InSec) (obj : Str) (wild : Bool) (groups : List (Str × List Line))
    (hnd : (groups.map (·.1)).Nodup) (hpw : groups.Pairwise (fun a b => grabs wild a.1 b.1 = false)) :
    expand (relinkBlocks objs obj [] groups)
        (takeSeq ((relinkBlocks objs obj [] groups).map (·.sec)) [] (groups.map fun g => mainStmt obj wild g.1))
      = takeSeq objs [] (groups.flatMap (·.2)) := by
  have h := two_step_document_order objs [⟨obj, wild, groups⟩] (fun s hs => by rw [List.mem_singleton.1 hs]; exact ⟨hnd, hpw⟩)
    (List.nodup_cons.2 ⟨fun h => (nomatch h), List.nodup_nil⟩) (List.pairwise_singleton _ _)
  simpa only [List.flatMap_cons, List.flatMap_nil, List.append_nil, SegScripts.comps, SegScripts.mainStmts,
    SegScripts.body] using h

/-- **C11, two-step clause (scripts of one segment)**: a partial script whose output sections
are `groups`, a main script part that places the partial object once per group, an ordinary
script part that holds the same statements (`C11.same_statements`): the two-step link and the
one-step link put the input sections in the same order. -/
theorem two_step_same_order (objs : List InSec) (obj : Str) (wild : Bool) (groups : List (Str × List Line))
    (partialScript mainPart ordinaryPart : List Line)
    (hP : blocksOf partialScript = groups)
    (hM : blockInputs false mainPart = groups.map fun g => mainStmt obj wild g.1) (hMp : ∀ l ∈ mainPart, plain l = true)
    (hO : takeSeq objs [] (blockInputs false ordinaryPart) = takeSeq objs [] (groups.flatMap (·.2))) (hOp : ∀ l ∈ ordinaryPart, plain l = true)
    (hnd : (groups.map (·.1)).Nodup) (hpw : groups.Pairwise (fun a b => grabs wild a.1 b.1 = false)) :
    twoStep objs [(obj, partialScript)] mainPart = oneStep objs ordinaryPart :=
  two_step_document_same_order objs [⟨obj, wild, groups⟩] _ mainPart ordinaryPart (by rw [List.map_singleton, hP]; rfl)
    (by rw [hM]; exact (List.append_nil _).symm) hMp (by rw [hO]; exact congrArg _ (List.append_nil _).symm) hOp
    (fun s hs => by rw [List.mem_singleton.1 hs]; exact ⟨hnd, hpw⟩) (List.nodup_cons.2 ⟨fun h => (nomatch h), List.nodup_nil⟩) (List.pairwise_singleton _ _)

def exA (sec : Str) : InSec := ⟨c!"a.o", none, sec, 4, 4⟩
def exB (sec : Str) : InSec := ⟨c!"b.o", none, sec, 4, 4⟩
def exObjs : List InSec := [exA c!".text", exA c!".data", exA c!".rodata", exB c!".text", exB c!".data", exB c!".rodata"]
def exIn (p sec : Str) : Line := .input false p none sec true
/-- `alloc_sections: [.text, .data, .rodata, .data.rel.ro]`, files `a.o` and `b.o`, the latter with
`section_order: {.rodata: .data.rel.ro}` — the statements slinky writes for the four groups. -/
def exGroups : List (Str × List Line) :=
  [(c!".text", [exIn c!"a.o" c!".text", exIn c!"b.o" c!".text"]),
   (c!".data", [exIn c!"a.o" c!".data", exIn c!"b.o" c!".data"]),
   (c!".rodata", [exIn c!"a.o" c!".rodata"]),
   (c!".data.rel.ro", [exIn c!"a.o" c!".data.rel.ro", exIn c!"b.o" c!".rodata", exIn c!"b.o" c!".data.rel.ro"])]

/-- one link: `a.o(.rodata)` precedes `b.o(.rodata)`. -/
theorem ex_one_step : takeSeq exObjs [] (exGroups.flatMap (·.2))
    = [exA c!".text", exB c!".text", exA c!".data", exB c!".data", exA c!".rodata", exB c!".rodata"] := by decide

/-- two links: the main script's `seg.o(.data*)` also takes the partial object's `.data.rel.ro`
section (which holds `b.o(.rodata)`), so `b.o(.rodata)` precedes `a.o(.rodata)`. -/
theorem ex_two_step : expand (relinkBlocks exObjs c!"seg.o" [] exGroups)
      (takeSeq ((relinkBlocks exObjs c!"seg.o" [] exGroups).map (·.sec)) [] (exGroups.map fun g => mainStmt c!"seg.o" true g.1))
    = [exA c!".text", exB c!".text", exA c!".data", exB c!".data", exB c!".rodata", exA c!".rodata"] := by decide

/-- **the two-step clause of C11 fails without the hypothesis of `two_step_segment_order`**
(known finding KF-C11-prefix-group; its witness in `known_findings.json` is replayed against
slinky and GNU ld on every run of the C11 check). -/
theorem grab_breaks_order : expand (relinkBlocks exObjs c!"seg.o" [] exGroups)
      (takeSeq ((relinkBlocks exObjs c!"seg.o" [] exGroups).map (·.sec)) [] (exGroups.map fun g => mainStmt c!"seg.o" true g.1))
    ≠ takeSeq exObjs [] (exGroups.flatMap (·.2)) := by
  rw [ex_one_step, ex_two_step]
  decide

/-- with exact section names (`wildcard_sections: false`) the hypothesis holds for these groups. -/
example : exGroups.Pairwise (fun a b => grabs false a.1 b.1 = false) ∧ (exGroups.map (·.1)).Nodup := by decide

end Slinky.C11
