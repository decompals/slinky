/-
  What every property file uses: membership and `Nodup` of `dedup`, `lookup` in an association list, the inversions
  of `Except.bind`, `mapE`.
-/
import Slinkyv
namespace Slinky

/-- peel a chain of `match … with | .error e => .error e | .ok x => …` in hypothesis `h`. -/
macro "peel " h:ident : tactic =>
  `(tactic| repeat (first | contradiction | split at $h:ident | dsimp only at $h:ident))

theorem mem_dedupAux {α} [DecidableEq α] (seen l : List α) (x : α) :
    x ∈ dedupAux seen l ↔ x ∈ l ∧ x ∉ seen := by
  induction l generalizing seen with
  | nil => simp [dedupAux]
  | cons a as ih =>
    unfold dedupAux
    by_cases h : a ∈ seen
    · rw [if_pos h, ih, List.mem_cons]
      exact ⟨fun ⟨h1, h2⟩ => ⟨.inr h1, h2⟩, fun ⟨h1, h2⟩ => ⟨h1.resolve_left (fun e => h2 (e ▸ h)), h2⟩⟩
    · rw [if_neg h, List.mem_cons, ih, List.mem_cons, List.mem_cons]
      by_cases hxa : x = a
      · subst hxa; simp [h]
      · simp [hxa]

theorem mem_dedup {α} [DecidableEq α] (l : List α) (x : α) : x ∈ dedup l ↔ x ∈ l := by
  simp [dedup, mem_dedupAux]

theorem nodup_dedupAux {α} [DecidableEq α] (seen l : List α) : (dedupAux seen l).Nodup := by
  induction l generalizing seen with
  | nil => simp [dedupAux]
  | cons a as ih =>
    unfold dedupAux
    by_cases h : a ∈ seen
    · simp only [h, if_true]; exact ih seen
    · simp only [h, if_false, List.nodup_cons]
      refine ⟨?_, ih _⟩
      intro hm
      have := (mem_dedupAux (a :: seen) as a).1 hm
      exact this.2 (List.mem_cons_self)

theorem nodup_dedup {α} [DecidableEq α] (l : List α) : (dedup l).Nodup := nodup_dedupAux [] l

theorem lookup_mem {β} {k : Str} {v : β} : ∀ {l : List (Str × β)}, lookup k l = some v → (k, v) ∈ l
  | [], h => nomatch h
  | (k', v') :: rest, h => by
    unfold lookup at h
    split at h
    · cases h; subst ‹k' = k›; exact List.mem_cons_self
    · exact List.mem_cons_of_mem _ (lookup_mem h)

theorem lookup_eq_some_iff {β} (k : Str) (l : List (Str × β)) (hnd : (l.map (·.1)).Nodup) (v : β) :
    lookup k l = some v ↔ (k, v) ∈ l := by
  refine ⟨lookup_mem, fun h => ?_⟩
  induction l with
  | nil => cases h
  | cons a as ih =>
    obtain ⟨k', v'⟩ := a
    simp only [List.map_cons, List.nodup_cons] at hnd
    unfold lookup
    rcases List.mem_cons.1 h with heq | h
    · cases heq; rw [if_pos rfl]
    · rw [if_neg (fun e => hnd.1 (List.mem_map.2 ⟨(k, v), h, e.symm⟩)), ih hnd.2 h]

theorem bind_eq_ok {ε α β} {x : Except ε α} {g : α → Except ε β} {r : β} :
    x.bind g = .ok r ↔ ∃ a, x = .ok a ∧ g a = .ok r := by
  cases x <;> simp [Except.bind]

theorem bind_ok_eq_ok {ε α β} {x : Except ε α} {g : α → β} {r : β} :
    (x.bind fun a => .ok (g a)) = .ok r ↔ ∃ a, x = .ok a ∧ r = g a := by
  rw [bind_eq_ok]
  exact exists_congr fun a => and_congr_right fun _ => ⟨fun h => (Except.ok.inj h).symm, fun h => h ▸ rfl⟩

theorem bind₂_eq_ok {ε α β γ} {x : Except ε α} {y : Except ε β} {g : α → β → γ} {r : γ} :
    (x.bind fun a => y.bind fun b => .ok (g a b)) = .ok r ↔ ∃ a b, x = .ok a ∧ y = .ok b ∧ r = g a b := by
  rw [bind_eq_ok]
  simp only [bind_ok_eq_ok]
  exact ⟨fun ⟨a, ha, b, hb, e⟩ => ⟨a, b, ha, hb, e⟩, fun ⟨a, b, ha, hb, e⟩ => ⟨a, ha, b, hb, e⟩⟩

theorem bind_eq_error {ε α β} {x : Except ε α} {g : α → Except ε β} {e : ε} :
    x.bind g = .error e ↔ x = .error e ∨ ∃ a, x = .ok a ∧ g a = .error e := by
  cases x <;> simp [Except.bind]

theorem mapE_cons {α β ε} (f : α → Except ε β) (a : α) (as : List α) :
    mapE f (a :: as) = (f a).bind fun x => (mapE f as).bind fun y => .ok (x :: y) := by
  rw [mapE]; cases f a <;> cases mapE f as <;> rfl

theorem mapE_ok_map {α β γ ε} {f : α → Except ε β} {g : β → γ} {φ : α → γ} (hf : ∀ a b, f a = .ok b → g b = φ a) :
    ∀ {l : List α} {r : List β}, mapE f l = .ok r → r.map g = l.map φ
  | [], _, h => by cases h; rfl
  | a :: as, _, h => by
    rw [mapE_cons] at h
    obtain ⟨x, hx, h⟩ := bind_eq_ok.1 h
    obtain ⟨xs, hxs, ⟨⟩⟩ := bind_eq_ok.1 h
    rw [List.map_cons, List.map_cons, hf a x hx, mapE_ok_map hf hxs]

theorem mapE_zip {α β ε} (f : α → Except ε β) (l : List α) (r : List β) (h : mapE f l = .ok r) :
    r.length = l.length ∧ ∀ a b, (a, b) ∈ l.zip r → f a = .ok b := by
  induction l generalizing r with
  | nil => cases h; exact ⟨rfl, fun a b hm => nomatch hm⟩
  | cons x xs ih =>
    rw [mapE_cons] at h
    obtain ⟨y, hy, h⟩ := bind_eq_ok.1 h
    obtain ⟨ys, hys, h⟩ := bind_eq_ok.1 h
    cases h
    have := ih ys hys
    refine ⟨by simp [this.1], fun a b hm => ?_⟩
    rcases List.mem_cons.1 hm with hm | hm
    · cases hm; exact hy
    · exact this.2 a b hm

end Slinky
