/-
  From "the state of the link behind a fragment" to "the linked image": the image `Ld.link` returns holds, for every
  name, the value the last evaluation of the script left (`imageOf_sym`, `link_eq`). A value proved behind a fragment
  is therefore the value in the image when no other statement of the *script* assigns that name (`assignCount n script
  ≤ 1`): a decidable property of the text, evaluated by the checks on every linked case (evidence `final_hypothesis`),
  and what "segment, class and section names are distinct and no user assignment reuses a generated name" means at the
  level of the text.
-/
import Props.Image
namespace Slinky
namespace Ld
open W

theorem lookup_map_self {β} (f : Str → β) (n : Str) : ∀ (l : List Str),
    lookup n (l.map fun m => (m, f m)) = if n ∈ l then some (f n) else none := by
  intro l
  induction l with
  | nil => simp [lookup]
  | cons a r ih =>
    simp only [List.map_cons, lookup, ih, List.mem_cons]
    by_cases h : a = n
    · subst h; simp
    · have h' : ¬ n = a := fun e => h e.symm
      simp [h, h']

theorem _root_.Slinky.C03.lookup_none_iff {β} (n : Str) (l : List (Str × β)) : lookup n l = none ↔ n ∉ l.map (·.1) := by
  induction l with
  | nil => exact ⟨fun _ h => (nomatch h), fun _ => rfl⟩
  | cons a r ih =>
    rw [lookup, List.map_cons, List.mem_cons, not_or, ← ih]
    by_cases e : a.1 = n
    · rw [if_pos e]; exact ⟨fun h => (nomatch h), fun h => absurd e.symm h.1⟩
    · rw [if_neg e]; exact ⟨fun h => ⟨fun e' => e e'.symm, h⟩, fun h => h.2⟩

theorem _root_.Slinky.C03.lookupLast_none_iff {β} (n : Str) (l : List (Str × β)) : lookupLast n l = none ↔ n ∉ l.map (·.1) := by
  rw [lookupLast, C03.lookup_none_iff, List.map_reverse, List.mem_reverse]

theorem lookupLast_none_of_not_mem {β} (n : Str) (l : List (Str × β)) (h : n ∉ l.map (·.1)) : lookupLast n l = none :=
  (C03.lookupLast_none_iff n l).2 h

/-- the value of a name in the image is the value the evaluation left for it (a forward `ADDR` resolved against the
sections of that evaluation). -/
theorem imageOf_sym (st : St) (n : Str) : (imageOf st).sym n = (lookupLast n st.syms).bind (resolve st) := by
  unfold Image.sym imageOf carry
  simp only [List.map_map, Function.comp_def]
  rw [lookup_map_self]
  by_cases hm : n ∈ st.syms.map (·.1)
  · rw [if_pos ((mem_dedup _ _).2 hm)]
    cases h : lookupLast n st.syms with
    | none => rfl
    | some v => cases h2 : resolve st v <;> simp [h2]
  · rw [if_neg (fun h => hm ((mem_dedup _ _).1 h))]
    rw [lookupLast_none_of_not_mem n st.syms hm]
    rfl

/-- the image `Ld.link` returns is the image of the last of its evaluations, which starts from the symbol table the
evaluation before it left. -/
theorem link_eq (objs : List InSec) (defsyms : List (Str × Nat)) (ls : List Line) :
    link objs defsyms ls
      = imageOf (execK objs { syms := carry (passes objs ls (defsyms.map fun kv => (kv.1, Val.num kv.2)) 1) } ls []) := by
  unfold link
  simp only [passes, pass, exec_eq_execK]

theorem image_sym_kept (objs : List InSec) (st : St) (T : List Line) (n : Str) (v : Nat)
    (hT : assignCount n T = 0) (h : lookupLast n st.syms = some (.num v)) :
    (imageOf (execK objs st T [])).sym n = some v := by
  rw [imageOf_sym, execK_keeps_count objs n T st [] hT, h]; rfl

/-- what is known about a generated symbol behind the statements `ls` that assign it: `ls` does assign `n`, and when it
does so only once, `n` holds `v` in `st`. Statements in front do not matter (`Once.front`), statements behind keep the
value (`Once.behind`, `Once.image`). -/
def Once (n : Str) (ls : List Line) (st : St) (v : Nat) : Prop :=
  1 ≤ assignCount n ls ∧ (assignCount n ls ≤ 1 → lookupLast n st.syms = some (.num v))

theorem Once.front {n : Str} {ls : List Line} {st : St} {v : Nat} (h : Once n ls st v) (a : List Line) : Once n (a ++ ls) st v := by
  rw [Once, assignCount_append]
  exact ⟨Nat.le_add_left_of_le h.1, fun hc => h.2 (Nat.le_trans (Nat.le_add_left _ _) hc)⟩

theorem Once.behind {n : Str} {ls : List Line} {st : St} {v : Nat} (h : Once n ls st v) (objs : List InSec) (b k : List Line) :
    Once n (ls ++ b) (execK objs st b k) v := by
  rw [Once, assignCount_append]
  have := h.1
  exact ⟨by omega, fun hc => (execK_keeps_count objs n b st k (by omega)).trans (h.2 (by omega))⟩

theorem Once.image {n : Str} {ls : List Line} {st : St} {v : Nat} (h : Once n ls st v) (objs : List InSec) (T : List Line)
    (hc : assignCount n ls + assignCount n T ≤ 1) : (imageOf (execK objs st T [])).sym n = some v := by
  have := h.1
  exact image_sym_kept objs st T n v (by omega) (h.2 (by omega))

theorem execK_sec_kept (objs : List InSec) (st : St) (ls k : List Line) (os : OutSec) (h : os ∈ st.secs) :
    os ∈ (execK objs st ls k).secs := by
  obtain ⟨extra, hx⟩ := execK_secs objs ls st k
  rw [hx]; exact List.mem_append_left _ h

theorem image_sec_kept (objs : List InSec) (st : St) (T : List Line) (os : OutSec) (h : os ∈ st.secs) :
    os ∈ (imageOf (execK objs st T [])).secs :=
  execK_sec_kept objs st T [] os h

deriving instance DecidableEq for OutSec, Placed, Image

theorem ok_image {ε α β} {r : Except ε α} {F : α → β} {v : β} (h : r.toOption.map F = some v) (d : α) :
    ∃ a, r = .ok a ∧ F a = v ∧ a = r.toOption.getD d := by
  cases r with
  | error e => cases h
  | ok a => exact ⟨a, rfl, Option.some.inj h, rfl⟩

/-- closes `(match r with | .ok s => b s (F s) | .error _ => false) = true` by evaluation, reading `F s` off
`h : r.toOption.map F = some v` (the image of an example document, computed once by its own theorem) instead of
computing it again. `s` stays a variable until `F s` has been replaced: when the kernel compares the `match` with its
`.ok` branch it evaluates both sides, and would run `F` on a closed `s`. -/
macro "decide_with " h:term : tactic =>
  `(tactic| (obtain ⟨s, hs, hv, he⟩ := ok_image $h []; rw [hs]; dsimp only; rw [hv]; subst he; decide +kernel))

end Ld
end Slinky
