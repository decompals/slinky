/-
  C09 — requested alignments are honoured in the linked image.
-/
import Props.ImageSegment
namespace Slinky.C09
open Slinky W C04

theorem alignUp_ge (x a : Nat) : x ≤ alignUp x a := Ld.le_alignUp x a

/-- `ALIGN(x, a)` is a multiple of `a`. -/
theorem alignUp_dvd (x a : Nat) (ha : 1 ≤ a) : a ∣ alignUp x a := Ld.alignUp_dvd' x a ha

theorem alignUp_of_dvd (x a : Nat) (h : a ∣ x) : alignUp x a = x := by
  unfold alignUp
  split
  · rfl
  · rename_i ha
    obtain ⟨k, rfl⟩ := h
    have ha0 : 0 < a := Nat.zero_lt_of_lt (Nat.lt_of_not_le ha)
    rw [Nat.add_sub_assoc ha0, Nat.mul_add_div ha0, Nat.div_eq_of_lt (Nat.sub_lt ha0 Nat.one_pos), Nat.add_zero, Nat.mul_comm]

/-- **both alignments hold when both are requested**: after `. = ALIGN(., a); . = ALIGN(., b)` the
result is a multiple of both when one divides the other (in particular for powers of two). -/
theorem align_both (x a b : Nat) (ha : 1 ≤ a) (hb : 1 ≤ b) (hab : a ∣ b ∨ b ∣ a) :
    a ∣ alignUp (alignUp x a) b ∧ b ∣ alignUp (alignUp x a) b := by
  refine ⟨?_, alignUp_dvd _ _ hb⟩
  rcases hab with h | h
  · exact Nat.dvd_trans h (alignUp_dvd _ _ hb)
  · have h1 : b ∣ alignUp x a := Nat.dvd_trans h (alignUp_dvd x a ha)
    rw [alignUp_of_dvd _ _ h1]
    exact alignUp_dvd x a ha

theorem pow2_dvd_or (i j : Nat) : 2 ^ i ∣ 2 ^ j ∨ 2 ^ j ∣ 2 ^ i := by
  rcases Nat.le_total i j with h | h
  · exact Or.inl (Nat.pow_dvd_pow 2 h)
  · exact Or.inr (Nat.pow_dvd_pow 2 h)

/-- **start of a section group**: `section_start_align` then that section's entry of
`sections_start_alignment` — both when both are given, neither when neither is — then (maybe)
`_gp`, then the start symbol: the symbol is taken *after* every requested alignment. -/
theorem group_start (cx : Ctx) (seg : Segment) (sec : Str) (h : cx.emitSecSyms = true) :
    sectionSymStart cx seg sec =
      (match seg.sectionStartAlign with | some a => [alignSymbol c!"." a] | none => [])
      ++ (match lookup sec seg.sectionsStartAlignment with | some a => [alignSymbol c!"." a] | none => [])
      ++ gpLine cx seg sec
      ++ [linkerSym (cx.d.settings.style.secStart seg.name sec) .dot] :=
  Ld.groupStart_eq cx seg sec h

/-- **end of a section group**: both end alignments (when given), then the end symbol and the size. -/
theorem group_end (cx : Ctx) (seg : Segment) (sec : Str) (h : cx.emitSecSyms = true) :
    sectionSymEnd cx seg sec =
      (match seg.sectionEndAlign with | some a => [alignSymbol c!"." a] | none => [])
      ++ (match lookup sec seg.sectionsEndAlignment with | some a => [alignSymbol c!"." a] | none => [])
      ++ [linkerSym (cx.d.settings.style.secEnd seg.name sec) .dot,
          linkerSym (cx.d.settings.style.secSize seg.name sec)
            (.absSub (cx.d.settings.style.secEnd seg.name sec) (cx.d.settings.style.secStart seg.name sec))] :=
  Ld.groupEnd_eq cx seg sec h

/-- is this line an alignment statement or does it request `SUBALIGN`? -/
def isAlign : Line → Bool
  | .assign _ (.alignE _ _) _ _ _ => true
  | .outHdr _ _ _ _ (some _) => true
  | _ => false

theorem gpLine_isAlign (cx : Ctx) (seg : Segment) (sec : Str) : (gpLine cx seg sec).filter isAlign = [] := by
  unfold gpLine
  cases seg.gpInfo with
  | none => rfl
  | some gp => dsimp only; split <;> rfl

/-- **an absent (or `null`) option adds no alignment**: with the five options unset an output
section of the segment holds no `ALIGN` and no `SUBALIGN`. (The segment's own start and end alignment
are written by `add_segment` around its output sections, only when set: `C03.segment_statements`.) -/
theorem absent_adds_nothing (cx : Ctx) (seg : Segment) (secs : List Str) (noload : Bool) (ls : List Line)
    (h : writeSegment cx seg secs noload = .ok ls)
    (h1 : seg.subalign = none) (h2 : seg.sectionStartAlign = none) (h3 : seg.sectionEndAlign = none)
    (h4 : seg.sectionsStartAlignment = []) (h5 : seg.sectionsEndAlignment = []) :
    ∀ l ∈ ls, isAlign l = false := by
  obtain ⟨body, hbody, rfl⟩ := writeSegment_ok.1 h
  have hS : ∀ sec, (sectionSymStart cx seg sec).filter isAlign = [] := by
    intro sec
    unfold sectionSymStart
    by_cases hsy : cx.emitSecSyms = true
    · rw [if_pos hsy, h2, h4, lookup, List.filter_append, List.filter_append, gpLine_isAlign]; rfl
    · rw [if_neg hsy]; rfl
  have hE : ∀ sec, (sectionSymEnd cx seg sec).filter isAlign = [] := by
    intro sec
    unfold sectionSymEnd
    by_cases hsy : cx.emitSecSyms = true
    · rw [if_pos hsy, h3, h5, lookup]; rfl
    · rw [if_neg hsy]; rfl
  have hbody : body.filter isAlign = [] := by
    refine List.filter_eq_nil_iff.2 fun l hl => ?_
    rcases sectionLoop_mem _ _ _ hbody l hl with rfl | ⟨s, _, g, hg, hlg⟩
    · exact Bool.false_ne_true
    · obtain ⟨b, hb, rfl⟩ := groupE_ok.1 hg
      rcases List.mem_append.1 hlg with hlg | hlg
      · rcases List.mem_append.1 hlg with hlg | hlg
        · exact List.filter_eq_nil_iff.1 (hS s) l hlg
        · cases emitSection_body cx seg s secs b hb l hlg <;> exact Bool.false_ne_true
      · exact List.filter_eq_nil_iff.1 (hE s) l hlg
  have hks : (kindStart cx seg noload).filter isAlign = [] := by unfold kindStart; split <;> rfl
  have hke : (kindEnd cx seg noload).filter isAlign = [] := by unfold kindEnd; split <;> rfl
  have hhdr : (segmentStart cx seg noload).filter isAlign = [] := by
    rw [segmentStart, List.filter_append, hks, h1]
    cases noload <;> rfl
  have hfill : (fillLines seg).filter isAlign = [] := by
    rcases fillLines_cases seg with e | ⟨v, e⟩ <;> rw [e] <;> rfl
  intro l hl
  refine Bool.eq_false_iff.2 (List.filter_eq_nil_iff.1 ?_ l hl)
  rw [List.filter_append, List.filter_append, List.filter_append, List.filter_append, hhdr, hfill, hbody, hke]
  rfl

theorem two_aligns (o₁ o₂ : Option Nat) (x : Nat) :
    (∀ a, o₂ = some a → 1 ≤ a → a ∣ Ld.alignO o₂ (Ld.alignO o₁ x)) ∧
    (∀ b, o₁ = some b → 1 ≤ b → (o₂ = none ∨ ∃ a, o₂ = some a ∧ 1 ≤ a ∧ (b ∣ a ∨ a ∣ b)) →
      b ∣ Ld.alignO o₂ (Ld.alignO o₁ x)) := by
  refine ⟨fun a h ha => ?_, fun b h hb h₂ => ?_⟩
  · subst h
    exact alignUp_dvd _ a ha
  · subst h
    rcases h₂ with rfl | ⟨a, rfl, ha, hab⟩
    · exact alignUp_dvd x b hb
    · exact (align_both x b a hb ha hab).1

open Ld in
/-- **C09, image clause for a section group**: measured from the start of the output section
that contains it, the group's start symbol is a multiple of that section's entry of
`sections_start_alignment`, and of `section_start_align` as well when one of the two divides
the other (or only one is given); likewise its end symbol for the two end alignments. -/
theorem image_group_alignment (objs : List InSec) (cx : Ctx) (seg : Segment) (sec : Str) (hsy : cx.emitSecSyms = true)
    (body : List Line) (hb : ∀ l ∈ body, BodyLine cx.d.settings.style seg.wildcardSections l)
    (c : Cur) (st : St) (hin : Inside c st) (k : List Line) :
    ∃ (s e : Nat) (st' : St),
      st' = execK objs st (sectionSymStart cx seg sec ++ body ++ sectionSymEnd cx seg sec) k ∧
      lookupLast (cx.d.settings.style.secStart seg.name sec) st'.syms = some (.num s) ∧
      lookupLast (cx.d.settings.style.secEnd seg.name sec) st'.syms = some (.num e) ∧
      c.addr ≤ s ∧ c.addr ≤ e ∧
      (∀ a, lookup sec seg.sectionsStartAlignment = some a → 1 ≤ a → a ∣ (s - c.addr)) ∧
      (∀ b, seg.sectionStartAlign = some b → 1 ≤ b →
        (lookup sec seg.sectionsStartAlignment = none ∨ ∃ a, lookup sec seg.sectionsStartAlignment = some a ∧ 1 ≤ a ∧ (b ∣ a ∨ a ∣ b)) →
        b ∣ (s - c.addr)) ∧
      (∀ a, lookup sec seg.sectionsEndAlignment = some a → 1 ≤ a → a ∣ (e - c.addr)) ∧
      (∀ b, seg.sectionEndAlign = some b → 1 ≤ b →
        (lookup sec seg.sectionsEndAlignment = none ∨ ∃ a, lookup sec seg.sectionsEndAlignment = some a ∧ 1 ≤ a ∧ (b ∣ a ∨ a ∣ b)) →
        b ∣ (e - c.addr)) := by
  obtain ⟨s, e, new, h⟩ := group_run objs cx seg sec hsy body hb c st hin k
  obtain ⟨m, _, he⟩ := h.stop
  refine ⟨s, e, _, rfl, h.startSym, h.endSym, ?_⟩
  rw [h.start, he, Nat.add_sub_cancel_left, Nat.add_sub_cancel_left]
  exact ⟨Nat.le_add_right _ _, Nat.le_add_right _ _, (two_aligns _ _ _).1, (two_aligns _ _ _).2, (two_aligns _ _ _).1,
    (two_aligns _ _ _).2⟩

open Ld in
/-- **C09, image clause for `subalign`**: with `subalign: n` every input section that the
statements of an output section of the segment place starts at a multiple of `n`. -/
theorem image_subalign (objs : List InSec) (cx : Ctx) (seg : Segment) (secs : List Str) (noload : Bool)
    (ls : List Line) (h : writeSegment cx seg secs noload = .ok ls) (st : St) (ho : Outside st) (k : List Line)
    (n : Nat) (hn : seg.subalign = some n) (h1 : 1 ≤ n) :
    ∃ new, (execK objs st ls k).placed = st.placed ++ new ∧ ∀ p ∈ new, n ∣ p.addr := by
  obtain ⟨start, end_, al, new, hS⟩ := section_run objs cx seg secs noload ls h st ho k
  refine ⟨new, hS.placed, fun p hp => ?_⟩
  have := hS.aligned p hp
  rw [hn] at this
  exact this h1

end Slinky.C09
