/-
  C01 — every listed input section is placed exactly once; nothing unlisted is placed.
-/
import Props.C01Order
import Props.ImageSegment
namespace Slinky.C01
open Slinky W

theorem shouldEmit_empty (o : Opts) : shouldEmit o {} = true := by
  simp [shouldEmit]

theorem leaf_plain (cx : Ctx) (seg : Segment) (secs : List Str) (n : Nat) (f : FileInfo) (sec base : Str)
    (parents : List Str) (hinc : shouldEmit cx.o f.cond = true) (hnp : sec ∉ parents) (hso : f.sectionOrder = [])
    (hsub : cx.refPartial = true ∨ subgroupsOf seg sec = []) :
    emitEntry cx seg secs (n + 1) f sec base parents
      = fileBody cx seg (fun b => concatMapE (fun c => emitEntry cx seg secs n c sec b []) f.files) f sec base := by
  rw [emitEntry_no_order cx seg secs n f sec base parents hinc hnp hso]
  rcases hsub with h | h
  · rw [h, Bool.true_or, if_pos rfl, appendE_ok_nil]
  · rw [h, concatMapE_nil, ite_self, appendE_ok_nil]

/-- **C01, a plain object entry**: an included object entry without `section_order`, asked for a
section that has no sub-groups (or in the main script of partial mode, which never expands
sub-groups), contributes exactly one input statement: its own path under the current base
directory, that section, `KEEP` per its effective `keep_sections`. -/
theorem object_placed_once (cx : Ctx) (seg : Segment) (secs : List Str) (n : Nat)
    (p : Str) (c : Cond) (keep : Keep) (sec base : Str) (parents : List Str) (q : Str)
    (hinc : shouldEmit cx.o c = true) (hnp : sec ∉ parents) (hesc : cx.esc cx.o p = .ok q)
    (hsub : cx.refPartial = true ∨ subgroupsOf seg sec = []) :
    emitEntry cx seg secs (n + 1) (.mk p .object [] 0 [] [] [] [] [] c keep) sec base parents
      = .ok [.input (keepFor keep sec) (display (pathPush base q)) none sec seg.wildcardSections] := by
  rw [leaf_plain cx seg secs n (.mk p .object [] 0 [] [] [] [] [] c keep) sec base parents hinc hnp rfl hsub]
  simp only [fileBody, FileInfo.kind, FileInfo.path, FileInfo.keep, hesc, liftPath, Except.bind]

/-- the same for an archive entry: `path:subfile(section)`. -/
theorem archive_placed_once (cx : Ctx) (seg : Segment) (secs : List Str) (n : Nat)
    (p sf : Str) (c : Cond) (keep : Keep) (sec base : Str) (parents : List Str) (q : Str)
    (hinc : shouldEmit cx.o c = true) (hnp : sec ∉ parents) (hesc : cx.esc cx.o p = .ok q)
    (hsub : cx.refPartial = true ∨ subgroupsOf seg sec = []) :
    emitEntry cx seg secs (n + 1) (.mk p .archive sf 0 [] [] [] [] [] c keep) sec base parents
      = .ok [.input (keepFor keep sec) (display (pathPush base q)) (some sf) sec seg.wildcardSections] := by
  rw [leaf_plain cx seg secs n (.mk p .archive sf 0 [] [] [] [] [] c keep) sec base parents hinc hnp rfl hsub]
  simp only [fileBody, FileInfo.kind, FileInfo.path, FileInfo.keep, FileInfo.subfile, hesc, liftPath, Except.bind]

/-- **a pad sits only in its own section**: one statement when asked for its section, nothing
for any other section (sub-groups aside; `mark_placed` has them, and linker offsets). -/
theorem pad_only_in_its_section (cx : Ctx) (seg : Segment) (secs : List Str) (n : Nat)
    (amount : Nat) (own : Str) (c : Cond) (keep : Keep) (sec base : Str) (parents : List Str)
    (hinc : shouldEmit cx.o c = true) (hnp : sec ∉ parents)
    (hsub : cx.refPartial = true ∨ subgroupsOf seg sec = []) :
    emitEntry cx seg secs (n + 1) (.mk [] .pad [] amount own [] [] [] [] c keep) sec base parents
      = .ok (if own = sec then [.addAssign c!"." (.hex amount)] else []) :=
  leaf_plain cx seg secs n (.mk [] .pad [] amount own [] [] [] [] c keep) sec base parents hinc hnp rfl hsub

/-- **groups: depth-first, in list order, under the group's directory.** An included group
contributes, for a section, the concatenation of what its files contribute for that section,
in the order of its file list, with the group's (expanded) `dir` appended to the base
directory; it adds nothing of its own. -/
theorem group_is_concatenation (cx : Ctx) (seg : Segment) (secs : List Str) (n : Nat)
    (files : List FileInfo) (dir : Str) (c : Cond) (keep : Keep) (sec base : Str) (parents : List Str) (d : Str)
    (hinc : shouldEmit cx.o c = true) (hnp : sec ∉ parents) (hesc : cx.esc cx.o dir = .ok d) :
    emitEntry cx seg secs (n + 1) (.mk [] .group [] 0 [] [] [] files dir c keep) sec base parents
      = concatMapE (fun child => emitEntry cx seg secs n child sec (pathPush base d) []) files := by
  rw [emitEntry_group cx seg secs n (.mk [] .group [] 0 [] [] [] files dir c keep) sec base parents hinc hnp rfl rfl]
  simp only [FileInfo.dir, hesc]
  rfl

/-- **nothing unlisted**: whatever an object entry emits, for whatever section and however its
`section_order` and the sub-group table send it around, is an input statement naming that
entry's own path and no archive member. -/
theorem object_names_only_itself (cx : Ctx) (seg : Segment) (secs : List Str) :
    ∀ (n : Nat) (p : Str) (so : List (Str × Str)) (c : Cond) (keep : Keep) (sec base : Str) (parents : List Str)
      (ls : List Line),
      emitEntry cx seg secs n (.mk p .object [] 0 [] [] so [] [] c keep) sec base parents = .ok ls →
      ∀ l ∈ ls, ∃ q k, cx.esc cx.o p = .ok q ∧
        l = .input (keepFor keep k) (display (pathPush base q)) none k seg.wildcardSections := by
  intro n
  induction n with
  | zero => intro p so c keep sec base parents ls h; cases h
  | succ n ih =>
    intro p so c keep sec base parents ls h l hl
    rw [emitEntry_succ] at h
    split at h
    · cases h; cases hl
    split at h
    · cases h
    obtain ⟨k, _, rk, hk, hlk⟩ := mem_of_concatMapE_ok h hl
    obtain ⟨a, b, ha, hb, rfl⟩ := appendE_eq_ok.1 hk
    rcases List.mem_append.1 hlk with hla | hlb
    · obtain ⟨q, hq, ha⟩ := bind_eq_ok.1 ha
      cases ha
      exact ⟨q, k, liftPath_eq_ok.1 hq, List.mem_singleton.1 hla⟩
    · split at hb
      · cases hb; cases hlb
      · obtain ⟨o, _, ro, ho, hlo⟩ := mem_of_concatMapE_ok hb hlb
        exact ih p so c keep o base _ ro ho l hlo

open Ld in
/-- **C01, image clause**: every input section that the statements of an output section of a
segment place is recorded under that output section's name and no other. The bounds
`start ≤ end_` around them are those of `Ld.section_run`; that they are the address range the
output section is recorded with is stated there, not here. -/
theorem image_placed_inside_segment (objs : List InSec) (cx : Ctx) (seg : Segment) (secs : List Str) (noload : Bool)
    (ls : List Line) (h : writeSegment cx seg secs noload = .ok ls) (st : St) (ho : Outside st) (k : List Line) :
    ∃ (start end_ : Nat) (new : List Placed), (execK objs st ls k).placed = st.placed ++ new ∧ start ≤ end_ ∧
      ∀ p ∈ new, start ≤ p.addr ∧ p.addr + p.inp.size ≤ end_ ∧
        p.out = (if noload then c!"." ++ seg.name ++ c!".noload" else c!"." ++ seg.name) := by
  obtain ⟨start, end_, al, new, hs⟩ := section_run objs cx seg secs noload ls h st ho k
  exact ⟨start, end_, new, hs.placed, hs.le, chainOk_mem _ _ _ _ hs.chain⟩

end Slinky.C01
