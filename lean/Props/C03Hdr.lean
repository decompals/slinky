/-
  How many headers of one name a generated script has — from the *document*. `C03.final_vram_start` assumes that the
  header `.<segment>` occurs once in the script (`Ld.hdrCount ≤ 1`). The headers of a main script are, in order,
  `.<segment>` and `.<segment>.noload` of every emitted segment and then the entries of the two allowlists
  (`headers_scriptOf`); counting them gives one when no other emitted segment has an output section spelled
  `.<segment>` and no allowlisted section is (`header_once`).
-/
import Props.C03Start
namespace Slinky.C03
open Slinky W Ld

theorem hdrOf_inner {sty : Style} {wild : Bool} {l : Line} (h : InnerLine sty wild l) : hdrOf l = none :=
  h.simple_or_input.elim hdrOf_simple fun ⟨_, _, _, _, e⟩ => e ▸ rfl

theorem hdrCount_eq_count (n : Str) (ls : List Line) : hdrCount n ls = (ls.filterMap hdrOf).count n := by
  induction ls with
  | nil => rfl
  | cons l r ih =>
    rw [hdrCount_cons, ih, List.filterMap_cons]
    cases h : hdrOf l with
    | none => simp
    | some m => simp [List.count_cons]

theorem headers_writeSegment {cx : Ctx} {seg : Segment} {secs : List Str} {noload : Bool} {ls : List Line}
    (h : writeSegment cx seg secs noload = .ok ls) :
    ls.filterMap hdrOf = [if noload then c!"." ++ seg.name ++ c!".noload" else c!"." ++ seg.name] := by
  rw [filterMap_writeSegment hdrOf (fun l hl => hdrOf_inner hl) h, segmentStart, List.filterMap_append,
    headers_simple (fillLines_simple seg), headers_simple (kindStart_simple cx seg noload), headers_simple (kindEnd_simple cx seg noload)]
  cases noload <;> rfl

theorem hdrCount_writeSegment (cx : Ctx) (seg : Segment) (secs : List Str) (noload : Bool) (ls : List Line)
    (h : writeSegment cx seg secs noload = .ok ls) (n : Str) :
    hdrCount n ls = if (if noload then c!"." ++ seg.name ++ c!".noload" else c!"." ++ seg.name) = n then 1 else 0 := by
  rw [hdrCount_eq_count, headers_writeSegment h, List.count_singleton]
  simp only [beq_iff_eq]

def segSecs (seg : Segment) : List Str := [c!"." ++ seg.name, c!"." ++ seg.name ++ c!".noload"]

theorem headers_addSegment {cx : Ctx} {em : List Str} {seg : Segment} {a : List Line} {em1 : List Str}
    (h : addSegment cx em seg = .ok (a, em1)) (hs : shouldEmit cx.o seg.cond = true) : a.filterMap hdrOf = segSecs seg := by
  apply addSegment_elim h
  · intro hex; rw [hex] at hs; cases hs
  · intro _ cls alloc noload hcp ha hn
    simp only [segmentLines_parts, List.filterMap_append, List.filterMap_cons, hdrOf, headers_simple (segHead_simple cx seg),
      headers_simple (segTail_simple cx seg), headers_writeSegment ha, headers_writeSegment hn, headers_simple (classPart_simple hcp)]
    rfl

theorem headers_addSegments {cx : Ctx} {segs : List Segment} {em : List Str} {ls : List Line} {em' : List Str}
    (h : addSegments cx em segs = .ok (ls, em')) :
    ls.filterMap hdrOf = (segs.filter fun s => shouldEmit cx.o s.cond).flatMap segSecs :=
  addSegments_filterMap hdrOf segSecs (fun _ _ _ _ hs ha => headers_addSegment ha hs) h

/-- how many headers called `n` `add_segment` writes for one segment. -/
def segHdrs (seg : Segment) (n : Str) : Nat :=
  (if c!"." ++ seg.name = n then 1 else 0) + (if c!"." ++ seg.name ++ c!".noload" = n then 1 else 0)

theorem count_segSecs (n : Str) (l : List Segment) : (l.flatMap segSecs).count n = (l.map fun s => segHdrs s n).sum := by
  rw [List.count_flatMap]
  refine congrArg _ (List.map_congr_left fun s _ => ?_)
  simp only [Function.comp, segSecs, segHdrs, List.count_cons, List.count_nil, beq_iff_eq, Nat.zero_add]
  exact Nat.add_comm _ _

theorem hdrCount_addSegments (cx : Ctx) : ∀ (segs : List Segment) (em : List Str) (ls : List Line) (em' : List Str)
    (_ : addSegments cx em segs = .ok (ls, em')) (n : Str),
    hdrCount n ls = ((segs.filter fun s => shouldEmit cx.o s.cond).map fun s => segHdrs s n).sum := by
  intro segs em ls em' h n
  rw [hdrCount_eq_count, headers_addSegments h, count_segSecs]

theorem headers_singleEntries (l : List Str) : (singleEntries l).filterMap hdrOf = l := by
  induction l with
  | nil => rfl
  | cons x xs ih => exact congrArg (x :: ·) ih

theorem hdrCount_singleEntries (n : Str) (l : List Str) :
    hdrCount n (l.map fun x => Line.singleEntry x c!"0") = l.count n := by
  rw [hdrCount_eq_count]; exact congrArg _ (headers_singleEntries l)

theorem hdrCount_blank_if (n : Str) (b : Bool) : hdrCount n (if b then [Line.blank] else []) = 0 := by
  cases b <;> rfl

theorem headers_endSections (cx : Ctx) (emitted : List Str) :
    (endSections cx emitted).filterMap hdrOf = cx.d.settings.sectionsAllowlist ++ cx.d.settings.sectionsAllowlistExtra := by
  have hb : ∀ b, (blankIf b).filterMap hdrOf = [] := fun b => by cases b <;> rfl
  have hs : (C18.classSizes cx emitted).filterMap hdrOf = [] :=
    List.filterMap_eq_nil_iff.2 fun l hl => by obtain ⟨_, _, rfl⟩ := List.mem_map.1 hl; rfl
  have hd : (discardBlock cx.d.settings).filterMap hdrOf = [] := List.filterMap_eq_nil_iff.2 fun l hl => by
    simp only [discardBlock, List.mem_append, List.mem_cons, List.mem_nil_iff, or_false, List.mem_map] at hl
    rcases hl with (((rfl | rfl) | ⟨_, _, rfl⟩) | hl) | rfl
    iterate 3 rfl
    · split at hl
      · rw [List.mem_singleton.1 hl]; rfl
      · cases hl
    · rfl
  rw [endSections_eq]
  simp only [List.filterMap_append, apply_ite (List.filterMap hdrOf), hb, hs, hd, headers_singleEntries, List.filterMap_nil,
    List.filterMap_cons, hdrOf, ite_self, List.nil_append, List.append_nil]

theorem headers_scriptOf (cx : Ctx) (vc : Bool) {segs : List Segment} {ls : List Line} {emitted : List Str}
    (hsegs : addSegments cx [] segs = .ok (ls, emitted)) :
    (scriptOf cx vc ls emitted).filterMap hdrOf = (segs.filter fun s => shouldEmit cx.o s.cond).flatMap segSecs
      ++ (cx.d.settings.sectionsAllowlist ++ cx.d.settings.sectionsAllowlistExtra) := by
  simp only [scriptOf, List.filterMap_append, headers_simple (versionComment_simple vc), headers_simple (beginSections_simple cx),
    headers_simple fun l hl => (topLevel_lines _ _ l hl).simple, headers_endSections, headers_addSegments hsegs, List.nil_append,
    List.append_nil]

theorem hdrCount_scriptOf (cx : Ctx) (vc : Bool) (segs : List Segment) (ls : List Line) (emitted : List Str)
    (hsegs : addSegments cx [] segs = .ok (ls, emitted)) (n : Str) :
    hdrCount n (scriptOf cx vc ls emitted)
      = ((segs.filter fun s => shouldEmit cx.o s.cond).map fun s => segHdrs s n).sum
        + cx.d.settings.sectionsAllowlist.count n + cx.d.settings.sectionsAllowlistExtra.count n := by
  rw [hdrCount_eq_count, headers_scriptOf cx vc hsegs, List.count_append, List.count_append, count_segSecs, Nat.add_assoc]

/-- **the number of headers of one name in the ordinary script of a document**: one per emitted segment whose
allocatable or noload output section is called so, one per entry of the two allowlists spelled so. -/
theorem hdrCount_script (d : Document) (o : Opts) (vc : Bool) (script : List Line)
    (hmulti : d.settings.singleSegmentMode = false) (h : generateNormal d o vc = .ok script) (n : Str) :
    hdrCount n script = ((d.segments.filter fun s => shouldEmit o s.cond).map fun s => segHdrs s n).sum
      + d.settings.sectionsAllowlist.count n + d.settings.sectionsAllowlistExtra.count n := by
  obtain ⟨ls, emitted, hsegs, rfl⟩ := (generateNormal_ok hmulti).1 h
  exact hdrCount_scriptOf { d := d, o := o } vc d.segments ls emitted hsegs n

/-- `hdrCount_script` for the main script of partial mode. -/
theorem hdrCount_main_partial (d : Document) (o : Opts) (vc : Bool) (out : PartialOut) (h : generatePartial d o vc = .ok out)
    (folder : Str) (hfolder : d.settings.partialBuildSegmentsFolder = some folder) (n : Str) :
    hdrCount n out.main = ((partialSegs d o folder).map fun s => segHdrs s n).sum
      + d.settings.sectionsAllowlist.count n + d.settings.sectionsAllowlistExtra.count n := by
  obtain ⟨folder', ls, emitted, ps, hf', hps, rfl⟩ := generatePartial_ok.1 h
  cases hfolder.symm.trans hf'
  have := hdrCount_scriptOf (partialCx d o) vc _ ls emitted (partialSegments_ok hps).1 n
  rw [show (partialCx d o).o = o from rfl,
    List.filter_eq_self.2 fun s hs => by simpa using partialSegs_emitted d o folder s hs] at this
  exact this

theorem segHdrs_self (seg : Segment) : segHdrs seg (c!"." ++ seg.name) = 1 := by
  simp [segHdrs]

theorem sum_segHdrs_split (n : Str) (pre post : List Segment) (seg : Segment)
    (hothers : ∀ s ∈ pre ++ post, segHdrs s n = 0) :
    ((pre ++ seg :: post).map fun s => segHdrs s n).sum = segHdrs seg n := by
  have hz : ∀ l : List Segment, (∀ s ∈ l, s ∈ pre ++ post) → (l.map fun s => segHdrs s n).sum = 0 := fun l hl =>
    List.sum_eq_zero_iff_forall_eq_nat.2 fun x hx => by
      obtain ⟨s, hs, rfl⟩ := List.mem_map.1 hx
      exact hothers s (hl s hs)
  simp only [List.map_append, List.map_cons, List.sum_append, List.sum_cons, hz pre fun _ => List.mem_append_left _,
    hz post fun _ => List.mem_append_right _, Nat.zero_add, Nat.add_zero]

/-- **the header `.<segment>` occurs once** when no other emitted segment has an output section of that name and no
allowlisted section is spelled so — the hypothesis of `final_vram_start`, from the document. -/
theorem header_once (d : Document) (o : Opts) (vc : Bool) (script : List Line)
    (hmulti : d.settings.singleSegmentMode = false) (h : generateNormal d o vc = .ok script)
    (pre post : List Segment) (seg : Segment) (hsplit : d.segments = pre ++ seg :: post) (hinc : shouldEmit o seg.cond = true)
    (hothers : ∀ s ∈ pre ++ post, shouldEmit o s.cond = true → segHdrs s (c!"." ++ seg.name) = 0)
    (ha : c!"." ++ seg.name ∉ d.settings.sectionsAllowlist) (he : c!"." ++ seg.name ∉ d.settings.sectionsAllowlistExtra) :
    hdrCount (c!"." ++ seg.name) script = 1 := by
  rw [hdrCount_script d o vc script hmulti h, hsplit, List.count_eq_zero.2 ha, List.count_eq_zero.2 he,
    List.filter_append, List.filter_cons, hinc, if_pos rfl, sum_segHdrs_split _ _ _ seg ?_, segHdrs_self]
  intro s hs
  rw [← List.filter_append] at hs
  obtain ⟨hm, hi⟩ := List.mem_filter.1 hs
  exact hothers s hm hi

/-- `header_once` for the main script of partial mode. -/
theorem header_once_partial (d : Document) (o : Opts) (vc : Bool) (out : PartialOut) (h : generatePartial d o vc = .ok out)
    (folder : Str) (hfolder : d.settings.partialBuildSegmentsFolder = some folder)
    (pre post : List Segment) (seg : Segment) (hsplit : partialSegs d o folder = pre ++ seg :: post)
    (hothers : ∀ s ∈ pre ++ post, segHdrs s (c!"." ++ seg.name) = 0)
    (ha : c!"." ++ seg.name ∉ d.settings.sectionsAllowlist) (he : c!"." ++ seg.name ∉ d.settings.sectionsAllowlistExtra) :
    hdrCount (c!"." ++ seg.name) out.main = 1 := by
  rw [hdrCount_main_partial d o vc out h folder hfolder, hsplit, List.count_eq_zero.2 ha, List.count_eq_zero.2 he,
    sum_segHdrs_split _ _ _ seg hothers, segHdrs_self]

/-- `final_vram_start` with the hypothesis on the header discharged from the document by `header_once`. -/
theorem final_vram_start_doc (objs : List InSec) (d : Document) (o : Opts) (vc : Bool) (script : List Line)
    (hmulti : d.settings.singleSegmentMode = false)
    (h : generateNormal d o vc = .ok script)
    (hall : ∀ s ∈ d.segments, shouldEmit o s.cond = true → s.allocSections ≠ [])
    (defsyms : List (Str × Nat))
    (pre post : List Segment) (seg : Segment) (hsplit : d.segments = pre ++ seg :: post)
    (hinc : shouldEmit o seg.cond = true)
    (hcnt : assignCount (d.settings.style.segVramStart seg.name) script ≤ 1)
    (hothers : ∀ s ∈ pre ++ post, shouldEmit o s.cond = true → segHdrs s (c!"." ++ seg.name) = 0)
    (ha : c!"." ++ seg.name ∉ d.settings.sectionsAllowlist) (he : c!"." ++ seg.name ∉ d.settings.sectionsAllowlistExtra) :
    ∃ os ∈ (link objs defsyms script).secs, os.name = c!"." ++ seg.name ∧ os.noload = false ∧
      (link objs defsyms script).sym (d.settings.style.segVramStart seg.name) = some os.addr ∧
      (assignCount (d.settings.style.segVramEnd seg.name) script ≤ 1 →
        ∃ e, (link objs defsyms script).sym (d.settings.style.segVramEnd seg.name) = some e ∧ os.addr + os.size ≤ e) :=
  final_vram_start objs d o vc script hmulti h hall defsyms pre post seg hsplit hinc hcnt
    (Nat.le_of_eq (header_once d o vc script hmulti h pre post seg hsplit hinc hothers ha he))

/-- the hypotheses are met: in the example document of `Props/Example.lean` the header `.main` is counted once by the formula. -/
example : (C04.exDoc.segments.take 1).all (fun s => segHdrs s c!".main" = 0) = true ∧ c!".main" ∉ C04.exDoc.settings.sectionsAllowlist
    ∧ c!".main" ∉ C04.exDoc.settings.sectionsAllowlistExtra := by decide

end Slinky.C03
