/-
  C06, the inclusion predicate — tied to the source text. `Src.should_emit_entry` (lean/Src/Logic.lean) is the
  translation of the body of `RuntimeSettings::should_emit_entry` in /repo's runtime_settings.rs, written by
  tools/extract_logic.py on every check run (early returns as else-branches, the mutable `exit` as nested `let`s).
-/
import Src.Logic
import Props.C06
namespace Slinky.C06

theorem shouldEmit_src (o : Opts) (c : Cond) :
    shouldEmit o c = Src.should_emit_entry o c.excludeIfAny c.excludeIfAll c.includeIfAny c.includeIfAll := by
  unfold shouldEmit Src.should_emit_entry
  -- the two `exclude` guards are the same test on both sides; only the `include` part differs in shape
  cases c.excludeIfAny.any (pairMatches o); rotate_left; · rfl
  cases (!c.excludeIfAll.isEmpty && c.excludeIfAll.all (pairMatches o)); rotate_left; · rfl
  cases c.includeIfAny.isEmpty <;> cases c.includeIfAll.isEmpty <;> cases c.includeIfAny.any (pairMatches o) <;>
    cases c.includeIfAll.all (pairMatches o) <;> rfl

/-- the documented predicate is what the source computes. -/
theorem source_is_documented (o : Opts) (c : Cond) :
    Src.should_emit_entry o c.excludeIfAny c.excludeIfAll c.includeIfAny c.includeIfAll = specEmit o c := by
  rw [← shouldEmit_src]; exact predicate o c

end Slinky.C06
