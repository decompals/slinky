/-
  C16, the kind of a file entry without `kind` — tied to the source text. `Src.kindByExtension` and the three
  default kinds (lean/Src/Logic.lean) are the arms of `FileKind::from_path` in /repo's file_kind.rs,
  written by tools/extract_logic.py on every run.
-/
import Src.Logic
import Slinkyv.Unserialize
namespace Slinky.C16

theorem kindFromPath_src (p : Str) :
    kindFromPath p = (match extension p with
      | none => Src.kindNoExtension
      | some e => (lookup e Src.kindByExtension).getD Src.kindOtherExtension) := by
  unfold kindFromPath
  cases extension p with
  | none => rfl
  | some e =>
    dsimp only [Src.kindByExtension, Src.kindOtherExtension, lookup]
    by_cases ha : e = c!"a"
    · rw [ha]; rfl
    · rw [if_neg ha, if_neg (Ne.symm ha)]
      split <;> rfl

/-- an extension that is not valid UTF-8 cannot occur in a document (YAML text is UTF-8); the source answers it like
a missing extension. -/
theorem kind_not_utf8_src : Src.kindNotUtf8 = Src.kindNoExtension := rfl

end Slinky.C16
