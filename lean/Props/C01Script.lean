/-
  C01 / C02 / C12 at the level of the whole script: the input statements of the segment part of
  an ordinary (or main) script are, in this order, those the per-group emitter returns — for the
  emitted segments in document order, the allocatable groups then the noload groups in list
  order.  The theorems on one entry (`Props/C01Sub.lean`) and on one segment (`Props/C01Seg.lean`) speak of what the
  per-group emitter returns; no theorem composes them with this one.
-/
import Props.C11Gen
namespace Slinky.C01
open Slinky W C11

/-- an error counts as no statements: under the hypothesis of `script_input_statements` `emitSection` returns `.ok` for
every section of every emitted segment (`inputs_addSegment`), and other segments are filtered out. -/
def linesOf : R (List Line) → List Line
  | .ok l => l
  | .error _ => []

def segmentStatements (cx : Ctx) (seg : Segment) : List Line :=
  (seg.allocSections.flatMap fun sec => linesOf (emitSection cx seg sec seg.allocSections))
  ++ (seg.noloadSections.flatMap fun sec => linesOf (emitSection cx seg sec seg.noloadSections))

/-- **the input statements of a script, all of them, in order.** -/
theorem script_input_statements (cx : Ctx) : ∀ (l : List Segment) (em : List Str) (ls : List Line) (em' : List Str),
    addSegments cx em l = .ok (ls, em') →
    ls.filter isInputB
      = ((l.filter fun seg => shouldEmit cx.o seg.cond).flatMap fun seg => segmentStatements cx seg).filter isInputB := by
  intro l em ls em' h
  rw [List.filter_flatMap, ← List.filterMap_eq_filter]
  refine addSegments_filterMap _ _ (fun em seg a em1 hinc ha => ?_) h
  obtain ⟨ba, bn, hba, hbn, hf⟩ := inputs_addSegment cx em seg a em1 ha hinc
  have lines : ∀ {f : Str → R (List Line)} {l bs}, mapE f l = .ok bs → bs = l.map fun a => linesOf (f a) := fun h =>
    (List.map_id _).symm.trans (mapE_ok_map (fun a b e => by rw [e]; rfl) h)
  rw [List.filterMap_eq_filter, hf, lines hba, lines hbn]
  simp only [segmentStatements, List.flatten_append, List.filter_append, List.flatMap_def]

end Slinky.C01
