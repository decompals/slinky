/-
  C08, how the resolved `fill_value` reaches the text — tied to the source text
  (lean/Src/Formats.lean, regenerated from linker_writer.rs on every check run).
-/
import Src.Formats
import Slinkyv.Script
import Props.Render
namespace Slinky.C08

theorem fill_src (v : Nat) : (Line.fill v).renderBody = fmt Src.lw__write_segment_0 [.n v]
    ∧ Src.lw__write_segment_0 = Src.lw__write_single_segment_4 := by
  constructor
  · unfold Line.renderBody Src.lw__write_segment_0
    simp only [fmtNorm]
  · rfl

theorem counts_src : Src.lw__write_segment_count = 1 ∧ Src.lw__write_single_segment_count = 5 := ⟨rfl, rfl⟩

end Slinky.C08
