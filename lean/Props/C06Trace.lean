/-
  C06, "an excluded entry leaves no trace": what the emitter returns for a list of entries is
  what it returns for the list with every excluded entry (at every nesting depth) deleted.
  Needs two facts about the recursion bound: more fuel never changes a result that is not
  "fuel exhausted", and the real bound is always enough (C19).
-/
import Props.C15
import Props.C19
import Props.WriterInv
namespace Slinky.C06
open Slinky

theorem emitEntry_fuel_succ (cx : Ctx) (seg : Segment) (secs : List Str) :
    ∀ (n : Nat) (f : FileInfo) (sec base : Str) (parents : List Str),
      emitEntry cx seg secs n f sec base parents ≠ .error .diverge →
      emitEntry cx seg secs (n + 1) f sec base parents = emitEntry cx seg secs n f sec base parents :=
  emitEntry_divLe_succ cx seg secs

theorem emitEntry_fuel_le (cx : Ctx) (seg : Segment) (secs : List Str) (n : Nat) :
    ∀ (d : Nat) (f : FileInfo) (sec base : Str) (parents : List Str),
      emitEntry cx seg secs n f sec base parents ≠ .error .diverge →
      emitEntry cx seg secs (n + d) f sec base parents = emitEntry cx seg secs n f sec base parents :=
  fun d => emitEntry_divLe_add cx seg secs d n

mutual
  def dropFile (o : Opts) : FileInfo → FileInfo
    | .mk p k sf pa se lo so fs dir c keep => .mk p k sf pa se lo so (dropFiles o fs) dir c keep
  /-- the list with every excluded entry, at every depth, deleted. -/
  def dropFiles (o : Opts) : List FileInfo → List FileInfo
    | [] => []
    | f :: fs => if shouldEmit o f.cond then dropFile o f :: dropFiles o fs else dropFiles o fs
end

theorem dropFile_fields (o : Opts) (f : FileInfo) :
    (dropFile o f).cond = f.cond ∧ (dropFile o f).sectionOrder = f.sectionOrder ∧
    (dropFile o f).kind = f.kind ∧ (dropFile o f).files = dropFiles o f.files := by
  cases f; exact ⟨rfl, rfl, rfl, rfl⟩

theorem fileBody_dropFile (cx : Ctx) (seg : Segment) (grp : Str → R (List Line)) (o : Opts) (f : FileInfo) (k base : Str) :
    fileBody cx seg grp (dropFile o f) k base = fileBody cx seg grp f k base := by
  cases f; rfl

/-- over a list: deleting the excluded entries (and, by `hrec`, pruning inside the kept ones)
does not change the concatenation, unless that is "fuel exhausted". -/
theorem concat_drop (cx : Ctx) (seg : Segment) (secs : List Str) (n : Nat) (k base : Str)
    (hrec : ∀ (c : FileInfo), emitEntry cx seg secs n c k base [] ≠ .error .diverge →
      emitEntry cx seg secs n (dropFile cx.o c) k base [] = emitEntry cx seg secs n c k base []) :
    ∀ (fs : List FileInfo),
      concatMapE (fun c => emitEntry cx seg secs n c k base []) fs ≠ .error .diverge →
      concatMapE (fun c => emitEntry cx seg secs n c k base []) (dropFiles cx.o fs)
        = concatMapE (fun c => emitEntry cx seg secs n c k base []) fs
  | [] => fun _ => rfl
  | c :: rest => by
    unfold dropFiles
    rw [concatMapE_cons]
    split
    · rw [concatMapE_cons]
      exact DivLe.appendE (hrec c) (concat_drop cx seg secs n k base hrec rest)
    · rename_i hc
      -- an excluded entry gives `.ok []`, or the fuel is exhausted
      have : DivLe (emitEntry cx seg secs n c k base []) (.ok []) := by
        cases n with
        | zero => exact fun h => absurd rfl h
        | succ m => rw [C19.excluded_returns cx seg secs m c k base [] (by simpa using hc)]; exact .refl _
      have h := this.appendE (concat_drop cx seg secs n k base hrec rest)
      rwa [ok_nil_appendE] at h

theorem emitEntry_drop (cx : Ctx) (seg : Segment) (secs : List Str) :
    ∀ (n : Nat) (f : FileInfo) (sec base : Str) (parents : List Str),
      emitEntry cx seg secs n f sec base parents ≠ .error .diverge →
      emitEntry cx seg secs n (dropFile cx.o f) sec base parents = emitEntry cx seg secs n f sec base parents := by
  intro n
  induction n with
  | zero => intro f sec base parents h; exact absurd rfl h
  | succ n ih =>
    intro f sec base parents
    rw [emitEntry_succ, emitEntry_succ]
    simp only [fileBody_dropFile, dropFile_fields]
    exact DivLe.ite (.refl _) (.ite (.refl _) (.concatMapE fun k _ =>
      .appendE (.fileBody fun b => concat_drop cx seg secs n k b (fun c => ih c k b []) _)
        (.ite (.refl _) (.concatMapE fun o _ => ih f o base _))))

theorem depth_drop (o : Opts) : ∀ (f : FileInfo), FileInfo.depth (dropFile o f) ≤ FileInfo.depth f
  | .mk p k sf pa se lo so fs dir c keep => by
    unfold dropFile FileInfo.depth
    exact Nat.succ_le_succ (depthList_drop fs)
where
  depthList_drop : ∀ (l : List FileInfo), FileInfo.depthList (dropFiles o l) ≤ FileInfo.depthList l
  | [] => Nat.le_refl _
  | f :: fs => by
    unfold dropFiles
    show _ ≤ max (FileInfo.depth f) (FileInfo.depthList fs)
    split
    · rw [FileInfo.depthList]
      exact Nat.max_le.2 ⟨Nat.le_trans (depth_drop o f) (Nat.le_max_left _ _),
        Nat.le_trans (depthList_drop fs) (Nat.le_max_right _ _)⟩
    · exact Nat.le_trans (depthList_drop fs) (Nat.le_max_right _ _)

theorem emitSection_drop (cx : Ctx) (seg : Segment) (sec : Str) (sections : List Str) :
    emitSection cx { seg with files := dropFiles cx.o seg.files } sec sections = emitSection cx seg sec sections := by
  rw [emitSection_eq_bind, emitSection_eq_bind]
  refine congrArg (C01.segBase cx seg).bind (funext fun base => ?_)
  rw [← concat_drop cx seg sections (fuelFor seg) sec base (fun c => emitEntry_drop cx seg sections _ c sec base [])
    seg.files (C19.entries_never_diverge cx seg sections sec base)]
  refine concatMapE_congr fun a ha => ?_
  -- the pruned segment's smaller fuel is enough as well
  rw [emitEntry_env (seg := { seg with files := dropFiles cx.o seg.files }) (cx' := cx) (seg' := seg) rfl rfl rfl rfl rfl rfl]
  exact C19.emitEntry_fuel_irrelevant cx seg sections sec base
    (C19.fuelFor_enough (seg := { seg with files := dropFiles cx.o seg.files }) ha)
    (Nat.le_trans (Nat.mul_le_mul_right _ (Nat.le_trans (C19.depth_le_of_mem a _ ha)
      (depth_drop.depthList_drop cx.o seg.files))) (Nat.le_succ _))

def dropGp (o : Opts) (g : Option GpInfo) : Option GpInfo :=
  match g with
  | some g => if shouldEmit o g.cond then some g else none
  | none => none

def dropSeg (o : Opts) (seg : Segment) : Segment :=
  { seg with files := dropFiles o seg.files, gpInfo := dropGp o seg.gpInfo }

/-- **the document with every excluded entry deleted**: excluded segments, excluded file
entries at every depth, an excluded `gp_info`, excluded symbol assignments, required symbols
and asserts. -/
def dropDoc (o : Opts) (d : Document) : Document :=
  { d with segments := (d.segments.filter fun s => shouldEmit o s.cond).map (dropSeg o),
           symbolAssignments := d.symbolAssignments.filter fun a => shouldEmit o a.cond,
           requiredSymbols := d.requiredSymbols.filter fun a => shouldEmit o a.cond,
           asserts := d.asserts.filter fun a => shouldEmit o a.cond }

theorem gpLine_dropSeg (cx : Ctx) (seg : Segment) (sec : Str) :
    gpLine cx (dropSeg cx.o seg) sec = gpLine cx seg sec := by
  unfold gpLine dropSeg dropGp
  cases hg : seg.gpInfo with
  | none => rfl
  | some g =>
    cases he : shouldEmit cx.o g.cond <;> simp [he]

theorem emitSection_dropSeg (cx : Ctx) (seg : Segment) (sec : Str) (sections : List Str) :
    emitSection cx (dropSeg cx.o seg) sec sections = emitSection cx seg sec sections := by
  rw [← emitSection_drop cx seg sec sections]
  apply emitSection_env <;> rfl

/-- the segment list `S` has an emitted member of a class exactly when the document's has: this `any`, in
`followedUsed`, is all that the writer of one segment reads of the segment list. -/
def SameUse (cx : Ctx) (S : List Segment) : Prop :=
  ∀ other : Str, S.any (fun s => decide (s.vramClass = some other) && shouldEmit cx.o s.cond)
    = cx.d.segments.any (fun s => decide (s.vramClass = some other) && shouldEmit cx.o s.cond)

section prune
variable {cx cx' : Ctx} (hcx : C15.CtxFrame cx cx') (ho : cx'.o = cx.o)
include hcx ho

theorem sameSections_drop (seg : Segment) : C15.SameSections cx cx' seg (dropSeg cx.o seg) :=
  have h := C15.SameSections.of_frame hcx ho (dropSeg cx.o seg)
  ⟨hcx, ⟨_, _, rfl⟩, fun sec secs => (h.emit sec secs).trans (emitSection_dropSeg cx seg sec secs),
    fun sec => (h.gp sec).trans (gpLine_dropSeg cx seg sec)⟩

theorem addSegment_prune (hS : SameUse cx cx'.d.segments) (seg : Segment) (em : List Str) :
    addSegment cx' em (dropSeg cx.o seg) = addSegment cx em seg := by
  refine C15.addSegment_congr (sameSections_drop hcx ho seg) (by rw [ho]; rfl) (fun vc => ?_) em
  unfold followedUsed
  rw [ho]
  exact List.filter_congr fun other _ => hS other

end prune

theorem addSegments_filter (cx : Ctx) : ∀ (l : List Segment) (em : List Str),
    addSegments cx em (l.filter fun s => shouldEmit cx.o s.cond) = addSegments cx em l := by
  intro l
  induction l with
  | nil => intro em; rfl
  | cons a as ih =>
    intro em
    cases ha : shouldEmit cx.o a.cond
    · simp only [List.filter_cons, ha, Bool.false_eq_true, if_false]
      rw [ih]
      conv => rhs; unfold addSegments
      rw [W.addSegment_excluded ha]
      simp only [List.nil_append]
      cases addSegments cx em as <;> rfl
    · simp only [List.filter_cons, ha, if_true]
      unfold addSegments
      simp only [ih]

theorem addSegments_prune {cx cx' : Ctx} (hcx : C15.CtxFrame cx cx') (ho : cx'.o = cx.o) (hS : SameUse cx cx'.d.segments)
    (l : List Segment) (em : List Str) :
    addSegments cx' em ((l.filter fun s => shouldEmit cx.o s.cond).map (dropSeg cx.o)) = addSegments cx em l := by
  rw [← addSegments_filter cx l em]
  exact C15.addSegments_forall₂ (R := fun s s' => s' = dropSeg cx.o s) (fun s _ e em => e ▸ addSegment_prune hcx ho hS s em)
    (C15.forall₂_map _ fun _ _ => rfl) em

theorem addSegments_drop (cx : Ctx) : ∀ (l : List Segment) (em : List Str),
    addSegments cx em ((l.filter fun s => shouldEmit cx.o s.cond).map (dropSeg cx.o)) = addSegments cx em l :=
  addSegments_prune (cx' := cx) ⟨_, _, ⟨_, _, _, _, rfl⟩, rfl⟩ rfl fun _ => rfl

theorem sameUse_drop (cx : Ctx) : SameUse cx ((cx.d.segments.filter fun s => shouldEmit cx.o s.cond).map (dropSeg cx.o)) := by
  intro other
  generalize cx.d.segments = l
  induction l with
  | nil => rfl
  | cons a as ih =>
    cases ha : shouldEmit cx.o a.cond
    · simp only [List.filter_cons, ha, Bool.false_eq_true, if_false, List.any_cons, Bool.and_false, Bool.false_or, ih]
    · simp only [List.filter_cons, ha, if_true, List.map_cons, List.any_cons, ih]
      have h1 : (dropSeg cx.o a).vramClass = a.vramClass := rfl
      have h2 : (dropSeg cx.o a).cond = a.cond := rfl
      rw [h1, h2, ha]

def noBlank (ls : List Line) : List Line := ls.filter (fun l => l ≠ .blank)

theorem noBlank_append (a b : List Line) : noBlank (a ++ b) = noBlank a ++ noBlank b := by
  unfold noBlank; simp

theorem noBlank_guard (c : Bool) (X : List Line) (h : c = true → X = []) :
    noBlank (if c then [] else Line.blank :: X) = noBlank X := by
  cases c with
  | true => simp [h rfl, noBlank]
  | false => simp [noBlank]

/-- the empty line before a block may be decided by the unfiltered list: an all-excluded block is empty. -/
theorem noBlank_block {α} (p : α → Bool) (g : List α → List Line) (hg : g [] = []) (l : List α) :
    noBlank (if (l.filter p).isEmpty then [] else Line.blank :: g (l.filter p))
      = noBlank (if l.isEmpty then [] else Line.blank :: g (l.filter p)) := by
  rw [noBlank_guard _ _ (fun h => by rw [List.isEmpty_iff.1 h, hg]),
    noBlank_guard _ _ (fun h => by rw [List.isEmpty_iff.1 h]; exact hg)]

/-- the top-level statements of the pruned document are those of the document, up to the
empty line that introduces a block all of whose entries are excluded. -/
theorem topLevel_drop (d : Document) (o : Opts) : noBlank (topLevel (dropDoc o d) o) = noBlank (topLevel d o) := by
  unfold topLevel dropDoc
  simp only [noBlank_append, List.filter_filter, Bool.and_self]
  rw [noBlank_block _ (List.map _) rfl, noBlank_block _ (fun l => (List.map _ l).flatten) rfl,
    noBlank_block _ (List.map _) rfl]

theorem addAllSegments_drop (d : Document) (o : Opts) (hm : d.settings.singleSegmentMode = false) :
    addAllSegments { d := dropDoc o d, o := o } = addAllSegments { d := d, o := o } := by
  unfold addAllSegments
  have hd : (dropDoc o d).settings.singleSegmentMode = false := hm
  simp only [hd, hm, Bool.false_eq_true, if_false]
  rw [show addSegments { d := dropDoc o d, o := o } [] (dropDoc o d).segments = addSegments { d := d, o := o } [] d.segments from
    addSegments_prune ⟨_, _, ⟨_, _, _, _, rfl⟩, rfl⟩ rfl (sameUse_drop { d := d, o := o }) d.segments []]
  rfl

/-- **C06, "an excluded entry leaves no trace" (ordinary scripts, multi-segment layout)**: the
script generated from the document with every excluded entry deleted (`dropDoc`) is the script
generated from the document, up to empty lines, errors included; header and dependency file then
agree by `same_header_and_deps`. Single-segment layout is left out: there the condition of the
sole segment is not evaluated. -/
theorem no_trace (d : Document) (o : Opts) (vc : Bool) (hm : d.settings.singleSegmentMode = false) :
    (generateNormal (dropDoc o d) o vc).map noBlank = (generateNormal d o vc).map noBlank := by
  unfold generateNormal
  rw [addAllSegments_drop d o hm]
  cases addAllSegments { d := d, o := o } with
  | error e => rfl
  | ok ls =>
    simp only [Except.map, noBlank_append, topLevel_drop]

def listsDoc (d : Document) (S : List Segment) (A : List SymbolAssignment) (Rq : List RequiredSymbol) (T : List AssertEntry) : Document :=
  { d with segments := S, symbolAssignments := A, requiredSymbols := Rq, asserts := T }

theorem dropFiles_newObject (o : Opts) (p : Str) : dropFiles o [FileInfo.newObject p] = [FileInfo.newObject p] := by
  unfold dropFiles FileInfo.newObject
  simp [FileInfo.cond, shouldEmit, dropFile, dropFiles]

theorem partialSegment_dropSeg (o : Opts) (folder : Str) (seg : Segment) :
    partialSegment folder (dropSeg o seg) = dropSeg o (partialSegment folder seg) := by
  unfold partialSegment dropSeg
  simp only [dropFiles_newObject]

theorem partialSegments_filter (d : Document) (o : Opts) (vc : Bool) (folder : Str) (esc : Opts → Str → Except ErrKind Str) :
    ∀ (l : List Segment) (em : List Str),
      partialSegments d o vc folder esc em (l.filter fun s => shouldEmit o s.cond) = partialSegments d o vc folder esc em l := by
  intro l
  induction l with
  | nil => intro em; rfl
  | cons a as ih =>
    intro em
    cases ha : shouldEmit o a.cond
    · rw [W.partialSegments_cons_excluded ha, ← ih]
      simp only [List.filter_cons, ha, Bool.false_eq_true, if_false]
    · simp only [List.filter_cons, ha, if_true]
      unfold partialSegments
      simp only [ih]

theorem partialSegments_drop (d : Document) (o : Opts) (vc : Bool) (folder : Str)
    (S : List Segment) (A : List SymbolAssignment) (Rq : List RequiredSymbol) (T : List AssertEntry)
    (hS : SameUse { d := d, o := o, refPartial := true, esc := escapePath } S) :
    ∀ (l : List Segment) (em : List Str),
      partialSegments (listsDoc d S A Rq T) o vc folder escapePath em
          ((l.filter fun s => shouldEmit o s.cond).map (dropSeg o))
        = partialSegments d o vc folder escapePath em l := by
  intro l em
  rw [← partialSegments_filter d o vc folder escapePath l em]
  refine C15.partialSegments_forall₂ vc (R := fun s s' => s' = dropSeg o s) ?_ (C15.forall₂_map _ fun _ _ => rfl) em
  rintro s _ rfl
  refine ⟨rfl, rfl, C15.addSingleSegment_congr
    (sameSections_drop (cx := C15.singleCtx d o escapePath) ⟨_, _, ⟨S, A, Rq, T, rfl⟩, rfl⟩ rfl s), fun em => ?_⟩
  rw [partialSegment_dropSeg]
  exact addSegment_prune (cx := C15.mainCtx d o escapePath) ⟨_, _, ⟨S, A, Rq, T, rfl⟩, rfl⟩ rfl hS _ em

/-- **C06, "an excluded entry leaves no trace" (partial linking)**: the main script of the
pruned document equals that of the document up to empty lines, and the per-segment partial
scripts are the same, errors included. -/
theorem no_trace_partial (d : Document) (o : Opts) (vc : Bool) :
    (generatePartial (dropDoc o d) o vc).map (fun po => (noBlank po.main, po.partials))
      = (generatePartial d o vc).map (fun po => (noBlank po.main, po.partials)) := by
  unfold generatePartial
  have hs : (dropDoc o d).settings = d.settings := rfl
  rw [hs]
  cases hf : d.settings.partialBuildSegmentsFolder with
  | none => rfl
  | some folder =>
    simp only []
    have h : partialSegments (dropDoc o d) o vc folder escapePath [] (dropDoc o d).segments
        = partialSegments d o vc folder escapePath [] d.segments :=
      partialSegments_drop d o vc folder _ _ _ _ (sameUse_drop { d := d, o := o, refPartial := true, esc := escapePath }) d.segments []
    rw [h]
    cases partialSegments d o vc folder escapePath [] d.segments with
    | error e => rfl
    | ok r =>
      obtain ⟨ls, emitted, ps⟩ := r
      simp only [Except.map, noBlank_append, topLevel_drop]
      rfl

/-- empty lines carry no linker symbol and no file path: scripts that agree up to empty lines
have the same header and the same dependency file. -/
theorem same_header_and_deps (l₁ l₂ : List Line) (h : noBlank l₁ = noBlank l₂) :
    linkerSymbols l₁ = linkerSymbols l₂ ∧ filesPaths l₁ = filesPaths l₂ := by
  have key : ∀ (f : Line → Option Str), f .blank = none → ∀ l : List Line, (noBlank l).filterMap f = l.filterMap f := by
    intro f hf l
    unfold noBlank
    rw [List.filterMap_filter]
    refine congrArg (List.filterMap · l) (funext fun a => ?_)
    by_cases ha : a = .blank <;> simp [ha, hf]
  unfold linkerSymbols filesPaths
  rw [← key Line.linkerSym? rfl l₁, ← key Line.linkerSym? rfl l₂, ← key Line.inputPath? rfl l₁, ← key Line.inputPath? rfl l₂, h]
  exact ⟨rfl, rfl⟩

end Slinky.C06
