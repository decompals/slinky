/-
  C10 in the image `Ld.link` returns: the end symbol of a vram class — for every main script.

  Behind every emitted member the class end symbol is the maximum of its previous value and the member's VRAM end;
  `class_end_max` carries that through the fold over the segments. The only statements assigning it must be the
  prologue's and one `MAX` per emitted member — the hypothesis on the text is the count `endAssigns`, and
  `class_end_lower` shows that the script has at least that many.
-/
import Props.C03Default
import Props.C03Start
import Props.C10Final
namespace Slinky.C10
open Slinky W Ld

/-- the statements of an emitted segment in front of `segTail`. -/
def segFront (cx : Ctx) (seg : Segment) (cls alloc noload : List Line) : List Line :=
  (cls ++ (C03.startAligns seg ++ [linkerSym (cx.d.settings.style.segRomStart seg.name) (.sym c!"__romPos")]))
    ++ linkerSym (cx.d.settings.style.segVramStart seg.name) (.addr (c!"." ++ seg.name)) :: (alloc ++ ([.blank] ++ (noload ++ [.blank])))

theorem segmentLines_front (cx : Ctx) (seg : Segment) (cls alloc noload : List Line) :
    segmentLines cx seg cls alloc noload = segFront cx seg cls alloc noload ++ segTail cx seg := by
  rw [C03.segmentLines_split]; simp [segFront, List.append_assoc]

theorem pre_tail_state (objs : List InSec) (cx : Ctx) (seg : Segment) (cls alloc noload : List Line)
    (hcls : ∀ l ∈ cls, OuterLine l ∧ symOf l ≠ some romPos)
    (ha : writeSegment cx seg seg.allocSections false = .ok alloc)
    (hn : writeSegment cx seg seg.noloadSections true = .ok noload)
    (st : St) (ho : Outside st) (r : Nat) (hr : lookupLast romPos st.syms = some (.num r)) (k : List Line) :
    Outside (execK objs st (segFront cx seg cls alloc noload) k) ∧
      ∃ r', lookupLast romPos (execK objs st (segFront cx seg cls alloc noload) k).syms = some (.num r') := by
  obtain ⟨o1, _, _, _, r1, _⟩ := head_image objs cx seg cls hcls st ho r hr
    (alloc ++ (.blank :: (noload ++ [.blank])) ++ k)
  have hsplit : segFront cx seg cls alloc noload = (cls ++ segHead cx seg) ++ (alloc ++ (.blank :: (noload ++ [.blank]))) := by
    simp only [segFront, segHead, C03.startAligns_eq, List.append_assoc, List.cons_append, List.nil_append]
  rw [hsplit, execK_append]
  generalize execK objs st (cls ++ segHead cx seg) _ = st1 at o1 r1
  rw [execK_append]
  obtain ⟨_, _, _, _, hA⟩ := section_run objs cx seg seg.allocSections false alloc ha st1 o1 ((.blank :: (noload ++ [.blank])) ++ k)
  have r2 := (section_image_rom objs cx seg seg.allocSections false alloc ha st1 o1 ((.blank :: (noload ++ [.blank])) ++ k)).trans r1
  generalize execK objs st1 alloc _ = st2 at hA r2 ⊢
  rw [execK_blank, execK_append, execK_blank]
  obtain ⟨_, _, _, _, hN⟩ := section_run objs cx seg seg.noloadSections true noload hn st2 hA.outside ([.blank] ++ k)
  exact ⟨hN.outside, _, (section_image_rom objs cx seg seg.noloadSections true noload hn st2 hA.outside ([Line.blank] ++ k)).trans r2⟩

/-- **one emitted member, behind its class prologue**: the class end symbol becomes the maximum of what it held and the
member's VRAM end. -/
theorem class_end_member (objs : List InSec) (cx : Ctx) (seg : Segment) (c : Str) (hcl : seg.vramClass = some c)
    (alloc noload : List Line)
    (ha : writeSegment cx seg seg.allocSections false = .ok alloc)
    (hn : writeSegment cx seg seg.noloadSections true = .ok noload)
    (st : St) (ho : Outside st) (r : Nat) (hr : lookupLast romPos st.syms = some (.num r)) (k : List Line)
    (e1 : Nat) (he1 : lookupLast (cx.d.settings.style.classEnd c) st.syms = some (.num e1))
    (hcnt : assignCount (cx.d.settings.style.classEnd c) (segFront cx seg [] alloc noload) = 0) :
    ∃ v, lookupLast (cx.d.settings.style.segVramEnd seg.name) (execK objs st (segmentLines cx seg [] alloc noload) k).syms = some (.num v) ∧
      lookupLast (cx.d.settings.style.classEnd c) (execK objs st (segmentLines cx seg [] alloc noload) k).syms = some (.num (max e1 v)) := by
  rw [segmentLines_front, execK_append]
  obtain ⟨oF, rF, hrF⟩ := pre_tail_state objs cx seg [] alloc noload (fun _ h => nomatch h) ha hn st ho r hr (segTail cx seg ++ k)
  have heF : lookupLast (cx.d.settings.style.classEnd c) (execK objs st (segFront cx seg [] alloc noload) (segTail cx seg ++ k)).syms = some (.num e1) := by
    rw [execK_keeps_count objs _ _ st _ hcnt]; exact he1
  generalize execK objs st (segFront cx seg [] alloc noload) _ = stF at *
  obtain ⟨st', e', _, hd', _, hve, _, _, _⟩ := tail_image objs cx seg stF oF rF hrF k
  have hce := tail_class_end objs cx seg c hcl stF oF rF hrF e1 heF k
  rw [← e'] at hce ⊢
  exact ⟨st'.dot, hve, by rw [hce, hd']⟩

/-- how many statements must assign the class end symbol: two for the first emitted member (prologue and `MAX`), one for
each later one. `b` says whether the class has been introduced. -/
def endAssigns (o : Opts) (c : Str) : Bool → List Segment → Nat
  | _, [] => 0
  | b, seg :: rest =>
    if shouldEmit o seg.cond = true ∧ seg.vramClass = some c then (if b then 1 else 2) + endAssigns o c true rest
    else endAssigns o c b rest

theorem classIntro_assigns_end (cx : Ctx) (c : Str) (vc : VramClass) :
    1 ≤ assignCount (cx.d.settings.style.classEnd c) (classIntro cx c vc) :=
  assignCount_pos (l := linkerSym _ (.hex8 0)) (by unfold classIntro; simp) (symOf_linkerSym _)

theorem segTail_assigns_end (cx : Ctx) (seg : Segment) (c : Str) (hcl : seg.vramClass = some c) :
    1 ≤ assignCount (cx.d.settings.style.classEnd c) (segTail cx seg) :=
  assignCount_pos_iff.2 (by rw [assigned_segTail, hcl]; simp)

theorem endAssigns_cons (o : Opts) (c : Str) (b : Bool) (seg : Segment) (rest : List Segment) :
    endAssigns o c b (seg :: rest) =
      (if shouldEmit o seg.cond = true ∧ seg.vramClass = some c then (if b then 1 else 2) else 0)
        + endAssigns o c (b || decide (shouldEmit o seg.cond = true ∧ seg.vramClass = some c)) rest := by
  rw [endAssigns]
  by_cases h : shouldEmit o seg.cond = true ∧ seg.vramClass = some c
  · rw [if_pos h, if_pos h, decide_eq_true h, Bool.or_true]
  · rw [if_neg h, if_neg h, decide_eq_false h, Bool.or_false, Nat.zero_add]

theorem introduced_cons {cx : Ctx} {em : List Str} {seg : Segment} {a : List Line} {em1 : List Str} (c : Str)
    (h : addSegment cx em seg = .ok (a, em1)) :
    decide (c ∈ em1) = (decide (c ∈ em) || decide (shouldEmit cx.o seg.cond = true ∧ seg.vramClass = some c)) := by
  rw [← Bool.decide_or]
  exact decide_eq_decide.2 (emitted_grows cx em em1 seg a h c)

theorem addSegment_end_lower (cx : Ctx) (c : Str) {em : List Str} {seg : Segment} {a : List Line} {em1 : List Str}
    (h : addSegment cx em seg = .ok (a, em1)) :
    (if shouldEmit cx.o seg.cond = true ∧ seg.vramClass = some c then (if decide (c ∈ em) then 1 else 2) else 0)
      ≤ assignCount (cx.d.settings.style.classEnd c) a := by
  split
  · rename_i hmem
    obtain ⟨cls, alloc, noload, hls, _, _, hcase⟩ := addSegment_member cx em seg a em1 c h hmem.1 hmem.2
    have ht := segTail_assigns_end cx seg c hmem.2
    rw [hls, segmentLines_cls, segmentLines_front, assignCount_append, assignCount_append]
    rcases hcase with ⟨hin, _⟩ | ⟨hnin, vc', _, hcls, _⟩
    · rw [if_pos (decide_eq_true hin)]; omega
    · have := classIntro_assigns_end cx c vc'
      rw [if_neg fun h => hnin (of_decide_eq_true h), hcls]; omega
  · exact Nat.zero_le _

theorem class_end_lower (cx : Ctx) (c : Str) : ∀ (segs : List Segment) (em : List Str) (ls : List Line) (em' : List Str)
    (_ : addSegments cx em segs = .ok (ls, em')),
    endAssigns cx.o c (decide (c ∈ em)) segs ≤ assignCount (cx.d.settings.style.classEnd c) ls := by
  intro segs em ls em' h
  apply addSegments_induction ?_ ?_ h
  · exact fun em => Nat.zero_le _
  intro em seg rest a em1 b em' hadd _ hb
  have hlow := addSegment_end_lower cx c hadd
  rw [introduced_cons c hadd] at hb
  rw [assignCount_append, endAssigns_cons]
  omega

def maxEnds (base : Nat) (vs : List (Segment × Nat)) : Nat := vs.foldl (fun m mv => max m mv.2) base

theorem maxEnds_facts : ∀ (vs : List (Segment × Nat)) (base : Nat),
    base ≤ maxEnds base vs ∧ (∀ mv ∈ vs, mv.2 ≤ maxEnds base vs) ∧ (maxEnds base vs = base ∨ ∃ mv ∈ vs, maxEnds base vs = mv.2) := by
  intro vs
  induction vs with
  | nil => intro base; exact ⟨Nat.le_refl _, fun _ h => (nomatch h), Or.inl rfl⟩
  | cons x xs ih =>
    intro base
    obtain ⟨h1, h2, h3⟩ := ih (max base x.2)
    refine ⟨Nat.le_trans (Nat.le_max_left _ _) h1, fun mv hmv => ?_, ?_⟩
    · rcases List.mem_cons.1 hmv with rfl | hmv
      · exact Nat.le_trans (Nat.le_max_right _ _) h1
      · exact h2 mv hmv
    · rcases h3 with h3 | ⟨mv, hmv, h3⟩
      · rcases Nat.le_total base x.2 with hle | hle
        · exact Or.inr ⟨x, List.mem_cons_self, h3.trans (Nat.max_eq_right hle)⟩
        · exact Or.inl (h3.trans (Nat.max_eq_left hle))
      · exact Or.inr ⟨mv, List.mem_cons_of_mem _ hmv, h3⟩

/-- one segment and the class end symbol, which holds `base` if the class has been introduced (`base = 0` otherwise), when
the statements of the segment assign it no more often than the writer does. -/
theorem class_end_step (objs : List InSec) (cx : Ctx) (c : Str) {em : List Str} {seg : Segment} {a : List Line} {em1 : List Str}
    (hadd : addSegment cx em seg = .ok (a, em1)) (st : St) (hb : Between st) (k : List Line) (base : Nat)
    (hinv : c ∈ em → lookupLast (cx.d.settings.style.classEnd c) st.syms = some (.num base)) (h0 : c ∉ em → base = 0)
    (hcount : assignCount (cx.d.settings.style.classEnd c) a ≤
      (if shouldEmit cx.o seg.cond = true ∧ seg.vramClass = some c then (if decide (c ∈ em) then 1 else 2) else 0)) :
    (¬ (shouldEmit cx.o seg.cond = true ∧ seg.vramClass = some c) → c ∈ em →
        lookupLast (cx.d.settings.style.classEnd c) (execK objs st a k).syms = some (.num base)) ∧
    (shouldEmit cx.o seg.cond = true ∧ seg.vramClass = some c → 1 ≤ assignCount (cx.d.settings.style.segVramEnd seg.name) a ∧
      ∃ v, lookupLast (cx.d.settings.style.segVramEnd seg.name) (execK objs st a k).syms = some (.num v) ∧
        lookupLast (cx.d.settings.style.classEnd c) (execK objs st a k).syms = some (.num (max base v))) := by
  obtain ⟨r, hr⟩ := hb.rom
  refine ⟨fun hmem hin => ?_, fun hmem => ?_⟩
  · rw [if_neg hmem] at hcount
    rw [execK_keeps_count objs _ a st k (by omega)]
    exact hinv hin
  · rw [if_pos hmem] at hcount
    obtain ⟨cls, alloc, noload, hls, ha, hn, hcase⟩ := addSegment_member cx em seg a em1 c hadd hmem.1 hmem.2
    have ht := segTail_assigns_end cx seg c hmem.2
    rw [hls, segmentLines_cls, segmentLines_front, assignCount_append, assignCount_append] at hcount
    rw [hls]
    refine ⟨C03.vramEnd_assigned cx seg cls alloc noload, ?_⟩
    rcases hcase with ⟨hin, hcls, _⟩ | ⟨hnin, vc', _, hcls, _⟩
    · rw [if_pos (decide_eq_true hin)] at hcount
      rw [hcls]
      exact class_end_member objs cx seg c hmem.2 alloc noload ha hn st hb.out r hr k base (hinv hin) (by omega)
    · -- the prologue leaves 0 in the class end symbol
      rw [if_neg fun h => hnin (of_decide_eq_true h), hcls] at hcount
      have hi := classIntro_assigns_end cx c vc'
      obtain rfl := h0 hnin
      rw [segmentLines_cls, hcls, execK_append]
      obtain ⟨oI, _, _, hz⟩ := class_intro_frame objs cx c vc' st hb.out (segmentLines cx seg [] alloc noload ++ k)
      exact class_end_member objs cx seg c hmem.2 alloc noload ha hn _ oI r
        ((execK_keeps_assigned objs (not_mem_assigned.2 fun l hl => (classIntro_outer cx c vc' l hl).2) st _).trans hr) k 0 hz
        (by omega)

/-- a segment and the rest each assign the class end symbol at least as often as the writer does: when the two together do
not exceed that, neither does. -/
theorem share_exact {a b s e : Nat} (h : a + b ≤ s + e) (ha : s ≤ a) (hb : e ≤ b) : a ≤ s ∧ b ≤ e := by omega

/-- **the class end symbol behind any number of segments is the largest VRAM end of the emitted members among them** and of
`base`, which it held in front of them if the class had been introduced (`base = 0` otherwise). -/
theorem class_end_max (objs : List InSec) (cx : Ctx) (hsy : cx.emitSecSyms = true) (c : Str)
    {segs : List Segment} {em : List Str} {ls : List Line} {em' : List Str} (h : addSegments cx em segs = .ok (ls, em')) :
    (∀ s ∈ segs, shouldEmit cx.o s.cond = true → s.allocSections ≠ []) →
      ∀ (st : St), Between st → ∀ (k : List Line) (base : Nat),
      (c ∈ em → lookupLast (cx.d.settings.style.classEnd c) st.syms = some (.num base)) → (c ∉ em → base = 0) →
      assignCount (cx.d.settings.style.classEnd c) ls ≤ endAssigns cx.o c (decide (c ∈ em)) segs →
      ∃ vs : List (Segment × Nat),
        vs.map (·.1) = segs.filter (fun s => decide (shouldEmit cx.o s.cond = true ∧ s.vramClass = some c)) ∧
        Between (execK objs st ls k) ∧
        (c ∈ em' → lookupLast (cx.d.settings.style.classEnd c) (execK objs st ls k).syms = some (.num (maxEnds base vs))) ∧
        (∀ mv ∈ vs, assignCount (cx.d.settings.style.segVramEnd mv.1.name) ls ≤ 1 →
          lookupLast (cx.d.settings.style.segVramEnd mv.1.name) (execK objs st ls k).syms = some (.num mv.2)) := by
  apply addSegments_induction ?_ ?_ h
  · exact fun em _ st hb k base hinv _ _ => ⟨[], rfl, hb, hinv, fun _ h => nomatch h⟩
  intro em seg rest a em1 b em' hadd hrest ih hall st hb k base hinv h0 hcount
  have hiff := emitted_grows cx em em1 seg a hadd c
  rw [assignCount_append, endAssigns_cons, ← introduced_cons c hadd] at hcount
  obtain ⟨hca, hcb⟩ := share_exact hcount (addSegment_end_lower cx c hadd) (class_end_lower cx c rest em1 b em' hrest)
  rw [execK_append]
  have hb1 := addSegment_between objs cx hsy hadd (hall seg List.mem_cons_self) st hb (b ++ k)
  obtain ⟨hkeep, hmax⟩ := class_end_step objs cx c hadd st hb (b ++ k) base hinv h0 hca
  by_cases hmem : shouldEmit cx.o seg.cond = true ∧ seg.vramClass = some c
  · obtain ⟨hA, v, hv, hcev⟩ := hmax hmem
    obtain ⟨vs, hvs, hb', hE, hvals⟩ := ih (fun s hs => hall s (List.mem_cons_of_mem _ hs)) _ hb1 k (max base v)
      (fun _ => hcev) (fun hn => absurd (hiff.2 (Or.inr hmem)) hn) hcb
    refine ⟨(seg, v) :: vs, by rw [List.filter_cons, if_pos (decide_eq_true hmem), List.map_cons, hvs], hb', hE, ?_⟩
    intro mv hmv hcnt
    rw [assignCount_append] at hcnt
    rcases List.mem_cons.1 hmv with rfl | hmv
    · dsimp only at hcnt ⊢
      rw [execK_keeps_count objs _ b _ k (by omega)]; exact hv
    · exact hvals mv hmv (Nat.le_trans (Nat.le_add_left _ _) hcnt)
  · obtain ⟨vs, hvs, hb', hE, hvals⟩ := ih (fun s hs => hall s (List.mem_cons_of_mem _ hs)) _ hb1 k base
      (fun hm => hkeep hmem ((hiff.1 hm).resolve_right hmem)) (fun hn => h0 fun hm => hn (hiff.2 (Or.inl hm))) hcb
    exact ⟨vs, by rw [List.filter_cons, if_neg (by rw [decide_eq_false hmem]; exact Bool.false_ne_true), hvs], hb', hE,
      fun mv hmv hcnt => hvals mv hmv (Nat.le_trans (Nat.le_add_left _ _) (assignCount_append _ a b ▸ hcnt))⟩

/-- **the end of a vram class in the image of a main script**: the class end symbol is the largest VRAM end of the
emitted members. -/
theorem class_end_main (objs : List InSec) {cx : Ctx} {segs : List Segment} {script : List Line}
    (hS : MainScript cx segs script) (defsyms : List (Str × Nat)) (c : Str)
    (hused : ∃ s ∈ segs, shouldEmit cx.o s.cond = true ∧ s.vramClass = some c)
    (hcount : assignCount (cx.d.settings.style.classEnd c) script ≤ endAssigns cx.o c false segs) :
    ∃ (E : Nat) (vs : List (Segment × Nat)),
      (link objs defsyms script).sym (cx.d.settings.style.classEnd c) = some E ∧
      vs.map (·.1) = segs.filter (fun s => decide (shouldEmit cx.o s.cond = true ∧ s.vramClass = some c)) ∧
      (∀ mv ∈ vs, mv.2 ≤ E ∧ (assignCount (cx.d.settings.style.segVramEnd mv.1.name) script ≤ 1 →
          (link objs defsyms script).sym (cx.d.settings.style.segVramEnd mv.1.name) = some mv.2)) ∧
      (E = 0 ∨ ∃ mv ∈ vs, E = mv.2) := by
  obtain ⟨ls, emitted, T, st1, hsegs, f⟩ := hS.frame objs defsyms
  rw [f.count] at hcount
  obtain ⟨vs, hvs, _, hE, hvals⟩ := class_end_max objs cx hS.syms c hsegs hS.alloc st1 f.between T 0 (fun hm => nomatch hm)
    (fun _ => rfl) (part_le hcount)
  obtain ⟨_, f2, f3⟩ := maxEnds_facts vs 0
  rw [f.image]
  refine ⟨_, vs, image_sym_kept objs _ T _ _ (rest_zero hcount (class_end_lower cx c segs [] ls emitted hsegs))
    (hE (member_introduced cx c segs [] ls emitted hsegs (Or.inr hused))), hvs, fun mv hmv => ⟨f2 mv hmv, fun hc => ?_⟩, f3⟩
  rw [f.count] at hc
  have hm1 := List.mem_filter.1 (hvs ▸ List.mem_map.2 ⟨mv, hmv, rfl⟩ : mv.1 ∈ segs.filter _)
  have hge := C03.addSegments_assign_vramEnd cx hsegs hm1.1 (of_decide_eq_true hm1.2).1
  exact image_sym_kept objs _ T _ mv.2 (rest_zero hc hge) (hvals mv hmv (part_le hc))

/-- `final_class_end` for any writer context and any statements behind the segments. -/
theorem class_end_core (objs : List InSec) (cx : Ctx) (hsy : cx.emitSecSyms = true) (vc : Bool)
    (segs : List Segment) (ls : List Line) (emitted : List Str) (T : List Line)
    (hsegs : addSegments cx [] segs = .ok (ls, emitted))
    (hall : ∀ s ∈ segs, shouldEmit cx.o s.cond = true → s.allocSections ≠ [])
    (defsyms : List (Str × Nat)) (c : Str)
    (hused : ∃ s ∈ segs, shouldEmit cx.o s.cond = true ∧ s.vramClass = some c)
    (hcount : assignCount (cx.d.settings.style.classEnd c) (versionComment vc ++ (beginSections cx ++ ls ++ T)) ≤ endAssigns cx.o c false segs) :
    ∃ (E : Nat) (vs : List (Segment × Nat)),
      (link objs defsyms (versionComment vc ++ (beginSections cx ++ ls ++ T))).sym (cx.d.settings.style.classEnd c) = some E ∧
      vs.map (·.1) = segs.filter (fun s => decide (shouldEmit cx.o s.cond = true ∧ s.vramClass = some c)) ∧
      (∀ mv ∈ vs, mv.2 ≤ E ∧ (assignCount (cx.d.settings.style.segVramEnd mv.1.name) (versionComment vc ++ (beginSections cx ++ ls ++ T)) ≤ 1 →
          (link objs defsyms (versionComment vc ++ (beginSections cx ++ ls ++ T))).sym (cx.d.settings.style.segVramEnd mv.1.name) = some mv.2)) ∧
      (E = 0 ∨ ∃ mv ∈ vs, E = mv.2) :=
  class_end_main objs (MainScript.core cx hsy vc segs ls emitted T hsegs hall) defsyms c hused hcount

/-- **C10 in the linked image, for the whole ordinary script of a document: the end of a vram class.** When the script assigns
the class end symbol no more often than the prologue and one `MAX` per emitted member do, the image `Ld.link` computes holds a
number `E` in the class end symbol and, for every emitted member, a number `v` — its VRAM end symbol in the image, when the
script assigns that once — with `v ≤ E`, and `E` is 0 or one of these `v`: the class ends where its last-ending member ends. -/
theorem final_class_end (objs : List InSec) (d : Document) (o : Opts) (vc : Bool) (script : List Line)
    (hmulti : d.settings.singleSegmentMode = false)
    (h : generateNormal d o vc = .ok script)
    (hall : ∀ s ∈ d.segments, shouldEmit o s.cond = true → s.allocSections ≠ [])
    (defsyms : List (Str × Nat)) (c : Str)
    (hused : ∃ s ∈ d.segments, shouldEmit o s.cond = true ∧ s.vramClass = some c)
    (hcount : assignCount (d.settings.style.classEnd c) script ≤ endAssigns o c false d.segments) :
    ∃ (E : Nat) (vs : List (Segment × Nat)),
      (link objs defsyms script).sym (d.settings.style.classEnd c) = some E ∧
      vs.map (·.1) = d.segments.filter (fun s => decide (shouldEmit o s.cond = true ∧ s.vramClass = some c)) ∧
      (∀ mv ∈ vs, mv.2 ≤ E ∧ (assignCount (d.settings.style.segVramEnd mv.1.name) script ≤ 1 →
          (link objs defsyms script).sym (d.settings.style.segVramEnd mv.1.name) = some mv.2)) ∧
      (E = 0 ∨ ∃ mv ∈ vs, E = mv.2) :=
  class_end_main objs (MainScript.normal d o vc script hmulti h hall) defsyms c hused hcount

/-- **`final_class_end` for the main script of partial mode**: over the segments that script is written from
(`C03.partialSegs`: the emitted segments, their file lists replaced by the partial object). -/
theorem final_class_end_partial (objs : List InSec) (d : Document) (o : Opts) (vc : Bool) (out : PartialOut)
    (h : generatePartial d o vc = .ok out)
    (hall : ∀ s ∈ d.segments, shouldEmit o s.cond = true → s.allocSections ≠ [])
    (defsyms : List (Str × Nat)) (folder : Str) (hfolder : d.settings.partialBuildSegmentsFolder = some folder) (c : Str)
    (hused : ∃ s ∈ C03.partialSegs d o folder, s.vramClass = some c)
    (hcount : assignCount (d.settings.style.classEnd c) out.main ≤ endAssigns o c false (C03.partialSegs d o folder)) :
    ∃ (E : Nat) (vs : List (Segment × Nat)),
      (link objs defsyms out.main).sym (d.settings.style.classEnd c) = some E ∧
      vs.map (·.1) = (C03.partialSegs d o folder).filter (fun s => decide (shouldEmit o s.cond = true ∧ s.vramClass = some c)) ∧
      (∀ mv ∈ vs, mv.2 ≤ E ∧ (assignCount (d.settings.style.segVramEnd mv.1.name) out.main ≤ 1 →
          (link objs defsyms out.main).sym (d.settings.style.segVramEnd mv.1.name) = some mv.2)) ∧
      (E = 0 ∨ ∃ mv ∈ vs, E = mv.2) :=
  class_end_main objs (MainScript.partial d o vc out h hall folder hfolder) defsyms c
    (hused.imp fun s hs => ⟨hs.1, C03.partialSegs_emitted d o folder s hs.1, hs.2⟩) hcount

/-- the hypotheses are met, and the numbers are real: the two members of `ovl` (`exDocC`) end at 0x8010000D and 0x80100000;
the class ends at the larger; the script assigns the class end symbol three times (prologue, two `MAX`). -/
example : (match generateNormal exDocC C04.exOpts false with
    | .ok script =>
      decide (assignCount c!"ovl_VRAM_CLASS_END" script = 3) && decide (endAssigns C04.exOpts c!"ovl" false exDocC.segments = 3)
      && decide ((link C04.exObjs [] script).sym c!"ovl_a_VRAM_END" = some 0x8010000D)
      && decide ((link C04.exObjs [] script).sym c!"ovl_b_VRAM_END" = some 0x80100000)
      && decide ((link C04.exObjs [] script).sym c!"ovl_VRAM_CLASS_END" = some 0x8010000D)
    | .error _ => false) = true := by decide_with exImageC_eq

/-- what is known about the class end symbol behind some segments: it holds `E`, at least the value `base` it had in front
of them and at least the VRAM end `v` of every emitted member `m` among them, and equal to one of these. -/
structure EndFacts (sty : Style) (ls : List Line) (st' : St) (base E : Nat) (vs : List (Segment × Nat)) : Prop where
  ge_base : base ≤ E
  ge_all : ∀ mv ∈ vs, mv.2 ≤ E
  attained : E = base ∨ ∃ mv ∈ vs, E = mv.2
  vals : ∀ mv ∈ vs, assignCount (sty.segVramEnd mv.1.name) ls ≤ 1 → lookupLast (sty.segVramEnd mv.1.name) st'.syms = some (.num mv.2)

/-- `class_end_max`, with what `maxEnds_facts` says about the maximum. -/
theorem class_end_kept (objs : List InSec) (cx : Ctx) (hsy : cx.emitSecSyms = true) (c : Str) :
    ∀ (segs : List Segment) (em : List Str) (ls : List Line) (em' : List Str)
      (_ : addSegments cx em segs = .ok (ls, em'))
      (_ : ∀ s ∈ segs, shouldEmit cx.o s.cond = true → s.allocSections ≠ [])
      (st : St) (_ : Outside st) (r : Nat) (_ : lookupLast Ld.romPos st.syms = some (.num r)) (k : List Line)
      (E0 : Nat) (_ : c ∈ em → lookupLast (cx.d.settings.style.classEnd c) st.syms = some (.num E0))
      (_ : assignCount (cx.d.settings.style.classEnd c) ls ≤ endAssigns cx.o c (decide (c ∈ em)) segs),
      ∃ (st' : St) (r' E : Nat) (vs : List (Segment × Nat)),
        st' = execK objs st ls k ∧ Outside st' ∧ lookupLast Ld.romPos st'.syms = some (.num r') ∧
        vs.map (·.1) = segs.filter (fun s => decide (shouldEmit cx.o s.cond = true ∧ s.vramClass = some c)) ∧
        (c ∈ em' → lookupLast (cx.d.settings.style.classEnd c) st'.syms = some (.num E)) ∧
        EndFacts cx.d.settings.style ls st' (if c ∈ em then E0 else 0) E vs := by
  intro segs em ls em' h hall st ho r hr k E0 hinv hcount
  obtain ⟨vs, hvs, hb', hE, hvals⟩ := class_end_max objs cx hsy c h hall st ⟨ho, r, hr⟩ k (if c ∈ em then E0 else 0)
    (fun hm => by rw [if_pos hm]; exact hinv hm) (fun hn => if_neg hn) hcount
  obtain ⟨r', hr'⟩ := hb'.rom
  obtain ⟨f1, f2, f3⟩ := maxEnds_facts vs (if c ∈ em then E0 else 0)
  exact ⟨_, r', _, vs, rfl, hb'.out, hr', hvs, hE, ⟨f1, f2, f3, hvals⟩⟩

theorem startAligns_state (objs : List InSec) (seg : Segment) (st : St) (ho : Outside st) (r : Nat)
    (hr : lookupLast romPos st.syms = some (.num r)) (k : List Line) :
    Outside (execK objs st (C03.startAligns seg) k) ∧ ∃ r', lookupLast romPos (execK objs st (C03.startAligns seg) k).syms = some (.num r') := by
  rw [C03.startAligns_eq]
  obtain ⟨_, rfl, o, _, hr', _⟩ := seg_aligns objs seg.segmentStartAlign st ho r hr k
  exact ⟨o, _, hr'⟩

end Slinky.C10
