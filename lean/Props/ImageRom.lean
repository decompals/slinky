/-
  The ROM counter behind all segments: `C04.segments_rom_symbols` without the symbols.
-/
import Props.C04Final
namespace Slinky
namespace Ld
open W

/-- C04 in the linked image, for the whole list of segments: behind the statements `add_segment` writes for them the
ROM counter is at the documented recurrence over the emitted segments in document order (`romFold`: each one loads at
the previous ROM end rounded up to its start alignment and ends at its start plus the size of its allocatable output
section, rounded up to its end alignment), the sizes being those of the output sections `.<segment>` the link itself
recorded; noload parts never enter. -/
theorem segments_rom_image (objs : List InSec) (cx : Ctx) (hsy : cx.emitSecSyms = true) :
    ∀ (segs : List Segment) (em : List Str) (ls : List Line) (em' : List Str)
      (_ : addSegments cx em segs = .ok (ls, em'))
      (_ : ∀ s ∈ segs, shouldEmit cx.o s.cond = true → s.allocSections ≠ [])
      (st : St) (_ : Outside st) (r : Nat) (_ : lookupLast romPos st.syms = some (.num r)) (k : List Line),
      ∃ (zs : List (Segment × Nat)) (st' : St),
        st' = execK objs st ls k ∧ Outside st' ∧
        zs.map (·.1) = segs.filter (fun s => shouldEmit cx.o s.cond) ∧
        lookupLast romPos st'.syms = some (.num (romFold r zs)) ∧
        (∀ sz ∈ zs, ∃ o ∈ st'.secs, o.name = c!"." ++ sz.1.name ∧ o.size = sz.2 ∧ o.noload = false) ∧
        (∃ extra, st'.secs = st.secs ++ extra) := by
  intro segs em ls em' h hall st ho r hr k
  obtain ⟨zs, st', e, o, hz, hrom, hsecs, _⟩ := C04.segments_rom_symbols objs cx hsy segs em ls em' h hall st ho r hr k
  exact ⟨zs, st', e, o, hz, hrom, hsecs, e ▸ execK_secs objs ls st k⟩

end Ld
end Slinky
