/-
  The `AbsentNullable` getters as guarded values (`if notNull a then .ok _ else .error _`), and what a record
  decoder returns when it accepts: `(X.unserialize x).toOption = if xValid x then some (xOf x) else none`.
  A decoder is a chain of guards, so such a statement is proved one guard at a time, in the order of the code:
  where a guard fails both sides compute to `none` whatever the later guards are.
-/
import Slinkyv.P.C16
namespace Slinky
open C16

def AN.toOpt {α} : AN α → Option α
  | .value v => some v
  | _ => none

theorem nonNullNoDefault_eq_ite {α} (a : AN α) :
    a.nonNullNoDefault = if notNull a then .ok a.toOpt else .error .nullValueOnNonNull := by
  cases a <;> rfl

theorem nonNull_eq_ite {α} (a : AN α) (d : α) :
    a.nonNull d = if notNull a then .ok (a.toOpt.getD d) else .error .nullValueOnNonNull := by
  cases a <;> rfl

theorem hasValue_eq {α} (a : AN α) : a.hasValue = a.toOpt.isSome := by cases a <;> rfl

/-- the guard of `SettingsSerial::unserialize` (a `d_path` without `target_path`) against the conjunct of
`settingsValid`. -/
theorem optNull_isSome_and_isNone {α β} (a : AN α) (b : AN β) :
    ((a.optionalNullable none).isSome && (b.optionalNullable none).isNone) = !(!a.hasValue || b.hasValue) := by
  cases a <;> cases b <;> rfl

theorem resolvedList_eq (a : AN (List Str)) (d : List Str) : a.toOpt.getD d = resolvedList a d := by
  cases a <;> rfl

theorem resolvedSub_eq (a : AN (List (Str × List Str))) (d : List (Str × List Str)) :
    a.toOpt.getD d = resolvedSubgroups a d := by
  cases a <;> rfl

theorem ok_of_toOption {α} {x : D α} {c : Bool} {v a : α}
    (hx : x.toOption = if c then some v else none) (h : x = .ok a) : c = true ∧ a = v := by
  subst h
  cases c
  · cases hx
  · cases hx; exact ⟨rfl, rfl⟩

/-- the form in which the value equation of an inner decoder is rewritten into the chain of the outer one. -/
theorem eq_ite_of_toOption {α} {x : D α} {c : Bool} {v : α} (hx : x.toOption = if c then some v else none) :
    ∃ e, x = if c then .ok v else .error e := by
  cases x with
  | error e =>
    cases c
    · exact ⟨e, rfl⟩
    · cases hx
  | ok a =>
    cases c
    · cases hx
    · cases hx; exact ⟨.emptyValue, rfl⟩

/-- what a settings block resolves to when it is accepted: the own value, else the default. -/
def settingsOfS (s : SettingsS) : Settings :=
  let d : Settings := {}
  { basePath := s.basePath.toOpt.getD d.basePath, style := s.style.toOpt.getD d.style,
    hardcodedGpValue := s.hardcodedGpValue.optionalNullable none,
    dPath := s.dPath.optionalNullable none, targetPath := s.targetPath.optionalNullable none,
    symbolsHeaderPath := s.symbolsHeaderPath.optionalNullable none,
    symbolsHeaderType := s.symbolsHeaderType.toOpt.getD d.symbolsHeaderType,
    symbolsHeaderAsArray := s.symbolsHeaderAsArray.toOpt.getD d.symbolsHeaderAsArray,
    sectionsAllowlist := s.sectionsAllowlist.toOpt.getD d.sectionsAllowlist,
    sectionsAllowlistExtra := s.sectionsAllowlistExtra.toOpt.getD d.sectionsAllowlistExtra,
    sectionsDenylist := s.sectionsDenylist.toOpt.getD d.sectionsDenylist,
    discardWildcardSection := s.discardWildcardSection.toOpt.getD d.discardWildcardSection,
    singleSegmentMode := s.singleSegmentMode.toOpt.getD d.singleSegmentMode,
    partialScriptsFolder := s.partialScriptsFolder.optionalNullable none,
    partialBuildSegmentsFolder := s.partialBuildSegmentsFolder.optionalNullable none,
    allocSections := s.over.allocSections.toOpt.getD d.allocSections,
    noloadSections := s.over.noloadSections.toOpt.getD d.noloadSections,
    subalign := s.over.subalign.optionalNullable d.subalign,
    segmentStartAlign := s.over.segmentStartAlign.optionalNullable d.segmentStartAlign,
    segmentEndAlign := s.over.segmentEndAlign.optionalNullable d.segmentEndAlign,
    sectionStartAlign := s.over.sectionStartAlign.optionalNullable d.sectionStartAlign,
    sectionEndAlign := s.over.sectionEndAlign.optionalNullable d.sectionEndAlign,
    sectionsStartAlignment := s.over.sectionsStartAlignment.toOpt.getD d.sectionsStartAlignment,
    sectionsEndAlignment := s.over.sectionsEndAlignment.toOpt.getD d.sectionsEndAlignment,
    wildcardSections := s.over.wildcardSections.toOpt.getD d.wildcardSections,
    fillValue := s.over.fillValue.optionalNullable d.fillValue,
    sectionsSubgroups := s.over.sectionsSubgroups.toOpt.getD d.sectionsSubgroups }

theorem settings_toOption (s : SettingsS) :
    s.unserialize.toOption = if settingsValid s then some (settingsOfS s) else none := by
  unfold SettingsS.unserialize settingsValid settingsOfS
  generalize ({} : Settings) = dflt
  -- `-iota`: simp is not to try the 7- and 6-discriminant matchers at every visit
  simp -iota only [nonNull_eq_ite, optNull_isSome_and_isNone]
  cases notNull s.basePath; · rfl
  cases notNull s.style; · rfl
  cases notNull s.symbolsHeaderType; · rfl
  cases notNull s.symbolsHeaderAsArray; · rfl
  cases notNull s.sectionsAllowlist; · rfl
  cases notNull s.sectionsAllowlistExtra; · rfl
  cases notNull s.sectionsDenylist; · rfl
  cases notNull s.discardWildcardSection; · rfl
  cases notNull s.singleSegmentMode; · rfl
  cases (!s.dPath.hasValue || s.targetPath.hasValue); · rfl
  cases notNull s.over.allocSections; · rfl
  cases notNull s.over.noloadSections; · rfl
  cases notNull s.over.sectionsStartAlignment; · rfl
  cases notNull s.over.sectionsEndAlignment; · rfl
  cases notNull s.over.wildcardSections; · rfl
  cases notNull s.over.sectionsSubgroups <;> rfl

theorem settings_inv {s : SettingsS} {st : Settings} (h : s.unserialize = .ok st) :
    settingsValid s = true ∧ st = settingsOfS s :=
  ok_of_toOption (settings_toOption s) h

theorem nonNullNotEmpty_eq_ite (a : AN (List (Str × Str))) :
    a.nonNullNotEmpty = if condListValid a then .ok (a.toOpt.getD [])
      else .error (if notNull a then .emptyValue else .nullValueOnNonNull) := by
  rcases a with _ | _ | _ | _ <;> rfl

def condOf (c : CondS) : Cond :=
  { includeIfAny := c.includeIfAny.toOpt.getD [], includeIfAll := c.includeIfAll.toOpt.getD [],
    excludeIfAny := c.excludeIfAny.toOpt.getD [], excludeIfAll := c.excludeIfAll.toOpt.getD [] }

theorem cond_toOption (c : CondS) : c.unserialize.toOption = if condValid c then some (condOf c) else none := by
  unfold CondS.unserialize condValid condOf
  simp -iota only [nonNullNotEmpty_eq_ite]
  cases condListValid c.includeIfAny; · rfl
  cases condListValid c.includeIfAll; · rfl
  cases condListValid c.excludeIfAny; · rfl
  cases condListValid c.excludeIfAll <;> rfl

/-- the defaults are those of gp_info.rs (`gp_info_default_offset` is `0x7FF0`). -/
def gpOfS (g : GpInfoS) : GpInfo :=
  { sect := gpSection g, offset := g.offset.toOpt.getD 0x7FF0, provide := g.provide.toOpt.getD false,
    hidden := g.hidden.toOpt.getD false, cond := condOf g.cond }

theorem gp_toOption (g : GpInfoS) : g.unserialize.toOption = if gpValid g then some (gpOfS g) else none := by
  unfold GpInfoS.unserialize gpValid gpOfS gpSection
  obtain ⟨e, he⟩ := eq_ite_of_toOption (cond_toOption g.cond)
  rw [he]
  simp -iota only [nonNull_eq_ite]
  rcases g.sect with _ | _ | _ | _
  case null | value.nil => rfl
  all_goals
    cases notNull g.offset; · rfl
    cases notNull g.provide; · rfl
    cases notNull g.hidden; · rfl
    cases condValid g.cond <;> rfl

def gpValidS (s : SegmentS) : Bool :=
  match s.gpInfo with
  | .null => false
  | .absent => true
  | .value g => gpValid g

theorem gpOf_toOption (s : SegmentS) :
    (gpOf s).toOption = if gpValidS s then some (s.gpInfo.toOpt.map gpOfS) else none := by
  unfold gpOf gpValidS
  rcases s.gpInfo with _ | _ | g
  · rfl
  · rfl
  · obtain ⟨e, he⟩ := eq_ite_of_toOption (gp_toOption g)
    show (match g.unserialize with
          | .ok x => (.ok (some x) : D (Option GpInfo))
          | .error e => .error e).toOption = if gpValid g then some (some (gpOfS g)) else none
    rw [he]
    cases gpValid g <;> rfl

/-- `restValid` with its conjuncts in the order in which the code checks them. -/
theorem restValid_eq (st : Settings) (s : SegmentS) : restValid st s =
    (notNull s.fixedVram && notNull s.fixedSymbol && notNull s.followsSegment && notNull s.vramClass
      && atMostOne [s.fixedVram.hasValue, s.fixedSymbol.hasValue, s.followsSegment.hasValue, s.vramClass.hasValue]
      && notNull s.dir && gpValidS s
      && !((s.gpInfo.toOpt.map gpOfS).isSome && st.hardcodedGpValue.isSome)
      && condValid s.cond && notNull s.over.allocSections && notNull s.over.noloadSections
      && gpSectionOk (s.gpInfo.toOpt.map gpOfS) (resolvedList s.over.allocSections st.allocSections)
          (resolvedList s.over.noloadSections st.noloadSections)
      && notNull s.over.sectionsStartAlignment && notNull s.over.sectionsEndAlignment
      && notNull s.over.wildcardSections && notNull s.over.sectionsSubgroups
      && !hasSubgroupCycle (resolvedSubgroups s.over.sectionsSubgroups st.sectionsSubgroups)) := by
  unfold restValid gpValidS
  rcases s.gpInfo with _ | _ | g
  · simp only [AN.toOpt, Option.map, Option.isSome, gpSectionOk, Bool.false_and, Bool.not_false, Bool.and_true]
  · simp only [Bool.and_false, Bool.false_and]
  · cases st.hardcodedGpValue
    · simp only [AN.toOpt, Option.map, Option.isSome, Option.isNone, gpSectionOk, gpOfS, Bool.and_false, Bool.not_false, Bool.and_true]
      ac_rfl
    · simp only [AN.toOpt, Option.map, Option.isSome, Option.isNone, Bool.and_false, Bool.false_and, Bool.and_self, Bool.not_true]

/-- the fifth conjunct of `restValid`. -/
theorem restValid_atMostOne {st : Settings} {s : SegmentS} (h : restValid st s = true) :
    atMostOne [s.fixedVram.hasValue, s.fixedSymbol.hasValue, s.followsSegment.hasValue, s.vramClass.hasValue] = true := by
  simp only [restValid, Bool.and_eq_true] at h
  exact h.1.1.1.1.1.1.1.1.1.1.2

/-- what everything of a segment but its files resolves to when it is accepted. -/
def segOf (st : Settings) (s : SegmentS) : Segment :=
  { name := s.name, files := [],
    fixedVram := s.fixedVram.toOpt, fixedSymbol := s.fixedSymbol.toOpt,
    followsSegment := s.followsSegment.toOpt, vramClass := s.vramClass.toOpt,
    dir := s.dir.toOpt.getD [], gpInfo := s.gpInfo.toOpt.map gpOfS, cond := condOf s.cond,
    allocSections := s.over.allocSections.toOpt.getD st.allocSections,
    noloadSections := s.over.noloadSections.toOpt.getD st.noloadSections,
    subalign := s.over.subalign.optionalNullable st.subalign,
    segmentStartAlign := s.over.segmentStartAlign.optionalNullable st.segmentStartAlign,
    segmentEndAlign := s.over.segmentEndAlign.optionalNullable st.segmentEndAlign,
    sectionStartAlign := s.over.sectionStartAlign.optionalNullable st.sectionStartAlign,
    sectionEndAlign := s.over.sectionEndAlign.optionalNullable st.sectionEndAlign,
    sectionsStartAlignment := s.over.sectionsStartAlignment.toOpt.getD st.sectionsStartAlignment,
    sectionsEndAlignment := s.over.sectionsEndAlignment.toOpt.getD st.sectionsEndAlignment,
    wildcardSections := s.over.wildcardSections.toOpt.getD st.wildcardSections,
    fillValue := s.over.fillValue.optionalNullable st.fillValue,
    sectionsSubgroups := s.over.sectionsSubgroups.toOpt.getD st.sectionsSubgroups, keep := s.keep }

theorem segmentRest_toOption (st : Settings) (s : SegmentS) :
    (segmentRest st s).toOption = if restValid st s then some (segOf st s) else none := by
  rw [restValid_eq]
  unfold segmentRest segmentTail segOf
  obtain ⟨eg, hg⟩ := eq_ite_of_toOption (gpOf_toOption s)
  obtain ⟨ec, hc⟩ := eq_ite_of_toOption (cond_toOption s.cond)
  rw [hg, hc]
  simp -iota only [nonNullNoDefault_eq_ite, nonNull_eq_ite, hasValue_eq, ← resolvedList_eq, ← resolvedSub_eq]
  cases notNull s.fixedVram; · rfl
  cases notNull s.fixedSymbol; · rfl
  cases notNull s.followsSegment; · rfl
  cases notNull s.vramClass; · rfl
  simp only [if_true]
  cases atMostOne [s.fixedVram.toOpt.isSome, s.fixedSymbol.toOpt.isSome, s.followsSegment.toOpt.isSome,
    s.vramClass.toOpt.isSome]; · rfl
  cases notNull s.dir; · rfl
  cases gpValidS s; · rfl
  simp only [if_true, Bool.not_true, Bool.false_eq_true, if_false]
  cases ((s.gpInfo.toOpt.map gpOfS).isSome && st.hardcodedGpValue.isSome); rotate_left; · rfl
  cases condValid s.cond; · rfl
  cases notNull s.over.allocSections; · rfl
  cases notNull s.over.noloadSections; · rfl
  simp only [if_true, Bool.false_eq_true, if_false]
  cases gpSectionOk (s.gpInfo.toOpt.map gpOfS) (s.over.allocSections.toOpt.getD st.allocSections)
    (s.over.noloadSections.toOpt.getD st.noloadSections); · rfl
  cases notNull s.over.sectionsStartAlignment; · rfl
  cases notNull s.over.sectionsEndAlignment; · rfl
  cases notNull s.over.wildcardSections; · rfl
  cases notNull s.over.sectionsSubgroups; · rfl
  simp only [if_true, Bool.not_true, Bool.false_eq_true, if_false]
  cases hasSubgroupCycle (s.over.sectionsSubgroups.toOpt.getD st.sectionsSubgroups) <;> rfl

theorem segmentRest_inv {st : Settings} {s : SegmentS} {seg : Segment} (h : segmentRest st s = .ok seg) :
    restValid st s = true ∧ seg = segOf st s :=
  ok_of_toOption (segmentRest_toOption st s) h

end Slinky
