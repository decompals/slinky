/-
  Props.Names — the names a generated script assigns fall into families, each recognised by how
  its names end (`…_VRAM_END` / `…SegmentEnd`, `__romPos`, …). Two names whose endings cannot end
  the same text are different: `name_ne`. The only families that can share a name are a section
  symbol and the segment or class symbol of the same kind (`…Start` / `…SegmentStart`).
-/
import Slinkyv.Script
namespace Slinky
namespace W

/-- a generated symbol ends neither in `s` (so it is not `__romPos`) nor in `.` (so it is not the location counter). -/
def endsOk (s : Str) : Prop := s.getLast? ≠ some 's' ∧ s.getLast? ≠ some '.'

theorem endsOk_ne (s t : Str) (h : endsOk s) (ht : t.getLast? = some 's') : s ≠ t := by
  intro he; subst he; exact h.1 ht

theorem endsOk_ne_dot (s : Str) (h : endsOk s) : s ≠ c!"." := by
  intro he; subst he; exact h.2 (by decide)

/-- whose symbol: a section's, a segment's ROM or VRAM range, a vram class's. -/
inductive Owner | sec | rom | vram | cls
  deriving DecidableEq

inductive Kind | start | stop | size
  deriving DecidableEq

inductive Fam
  | sym (o : Owner) (k : Kind)
  | offset | romPos | gp
  deriving DecidableEq

def pick : Style → Str × Str → Str
  | .splat, p => p.1
  | .makerom, p => p.2

/-- what an owner and a kind contribute to the end of a name, in the two symbol styles. -/
def Owner.ends : Owner → Str × Str
  | .sec => ([], [])
  | .rom => (c!"_ROM", c!"SegmentRom")
  | .vram => (c!"_VRAM", c!"Segment")
  | .cls => (c!"_VRAM_CLASS", c!"VramClass")

def Kind.ends : Kind → Str × Str
  | .start => (c!"_START", c!"Start")
  | .stop => (c!"_END", c!"End")
  | .size => (c!"_SIZE", c!"Size")

/-- how the names of a family end in a symbol style (`<seg>_VRAM` is the one name that does not
follow the scheme). -/
def Fam.ending : Fam → Style → Str
  | .sym .vram .start, sty => pick sty (c!"_VRAM", c!"SegmentStart")
  | .sym o k, sty => pick sty o.ends ++ pick sty k.ends
  | .offset, sty => pick sty (c!"_OFFSET", c!"Offset")
  | .romPos, _ => c!"__romPos"
  | .gp, _ => c!"_gp"

class IsName (f : outParam Fam) (s : Str) : Prop where
  ends : ∃ sty a, s = a ++ f.ending sty

instance (sty : Style) (n : Str) : IsName (.sym .rom .start) (sty.segRomStart n) :=
  ⟨sty, by cases sty <;> exact ⟨_, rfl⟩⟩
instance (sty : Style) (n : Str) : IsName (.sym .rom .stop) (sty.segRomEnd n) :=
  ⟨sty, by cases sty <;> exact ⟨_, rfl⟩⟩
instance (sty : Style) (n : Str) : IsName (.sym .rom .size) (sty.segRomSize n) :=
  ⟨sty, by cases sty <;> exact ⟨_, rfl⟩⟩
instance (sty : Style) (n : Str) : IsName (.sym .vram .start) (sty.segVramStart n) :=
  ⟨sty, by cases sty <;> exact ⟨_, rfl⟩⟩
instance (sty : Style) (n : Str) : IsName (.sym .vram .stop) (sty.segVramEnd n) :=
  ⟨sty, by cases sty <;> exact ⟨_, rfl⟩⟩
instance (sty : Style) (n : Str) : IsName (.sym .vram .size) (sty.segVramSize n) :=
  ⟨sty, by cases sty <;> exact ⟨_, rfl⟩⟩
instance (sty : Style) (n sec : Str) : IsName (.sym .sec .start) (sty.secStart n sec) :=
  ⟨sty, by cases sty <;> exact ⟨_, rfl⟩⟩
instance (sty : Style) (n sec : Str) : IsName (.sym .sec .stop) (sty.secEnd n sec) :=
  ⟨sty, by cases sty <;> exact ⟨_, rfl⟩⟩
instance (sty : Style) (n sec : Str) : IsName (.sym .sec .size) (sty.secSize n sec) :=
  ⟨sty, by cases sty <;> exact ⟨_, rfl⟩⟩
instance (sty : Style) (n : Str) : IsName (.sym .cls .start) (sty.classStart n) :=
  ⟨sty, by cases sty <;> exact ⟨_, rfl⟩⟩
instance (sty : Style) (n : Str) : IsName (.sym .cls .stop) (sty.classEnd n) :=
  ⟨sty, by cases sty <;> exact ⟨_, rfl⟩⟩
instance (sty : Style) (n : Str) : IsName (.sym .cls .size) (sty.classSize n) :=
  ⟨sty, by cases sty <;> exact ⟨_, rfl⟩⟩
instance (sty : Style) (n : Str) : IsName .offset (sty.linkerOffset n) :=
  ⟨sty, by cases sty <;> exact ⟨_, rfl⟩⟩
instance : IsName .romPos c!"__romPos" := ⟨.splat, [], rfl⟩
instance : IsName .gp c!"_gp" := ⟨.splat, [], rfl⟩

/-- no text ends with both `a` and `b`: they differ within the length of the shorter one. -/
def apart (a b : Str) : Bool :=
  a.reverse.take (min a.length b.length) != b.reverse.take (min a.length b.length)

theorem ne_of_apart {a b x y : Str} (h : apart a b = true) : x ++ a ≠ y ++ b := by
  intro e
  have := congrArg (fun s => s.reverse.take (min a.length b.length)) e
  simp only [List.reverse_append] at this
  rw [List.take_append_of_le_length (by simp; omega), List.take_append_of_le_length (by simp; omega)] at this
  simp [apart, this] at h

/-- the families whose names can coincide: a family with itself, and a section symbol with the ROM,
VRAM or class symbol of the same kind. -/
def Fam.clash : Fam → Fam → Bool
  | .sym o k, .sym o' k' => k = k' && (o = o' || o = .sec || o' = .sec)
  | .offset, .offset | .romPos, .romPos | .gp, .gp => true
  | _, _ => false

def Fam.all : List Fam :=
  [.sym .sec .start, .sym .sec .stop, .sym .sec .size, .sym .rom .start, .sym .rom .stop, .sym .rom .size,
   .sym .vram .start, .sym .vram .stop, .sym .vram .size, .sym .cls .start, .sym .cls .stop, .sym .cls .size,
   .offset, .romPos, .gp]

theorem Fam.mem_all (f : Fam) : f ∈ Fam.all := by
  cases f with
  | sym o k => cases o <;> cases k <;> decide
  | _ => decide

def styles : List Style := [.splat, .makerom]

theorem mem_styles (sty : Style) : sty ∈ styles := by cases sty <;> decide

theorem Fam.apart_table : (Fam.all.all fun f => Fam.all.all fun g => f.clash g ||
    (styles.all fun x => styles.all fun y => apart (f.ending x) (g.ending y))) = true := by decide +kernel

/-- **names of families that do not clash are different.** -/
theorem name_ne {f g : Fam} {s t : Str} [hs : IsName f s] [ht : IsName g t] (h : f.clash g = false := by decide) : s ≠ t := by
  obtain ⟨x, a, rfl⟩ := hs.ends
  obtain ⟨y, b, rfl⟩ := ht.ends
  have := List.all_eq_true.1 (List.all_eq_true.1 Fam.apart_table f f.mem_all) g g.mem_all
  rw [h, Bool.false_or] at this
  exact ne_of_apart (List.all_eq_true.1 (List.all_eq_true.1 this x (mem_styles x)) y (mem_styles y))

/-- no ending ends in `.`, and only `__romPos` ends in `s` (a finite table). -/
theorem Fam.last_table : (Fam.all.all fun f => styles.all fun x => (f.ending x).getLast?.any fun c =>
    c != '.' && (f.clash .romPos || c != 's')) = true := by decide +kernel

theorem IsName.getLast {f : Fam} {s : Str} [hs : IsName f s] :
    ∃ c, s.getLast? = some c ∧ c ≠ '.' ∧ (f.clash .romPos = false → c ≠ 's') := by
  obtain ⟨x, a, rfl⟩ := hs.ends
  have := List.all_eq_true.1 (List.all_eq_true.1 Fam.last_table f f.mem_all) x (mem_styles x)
  obtain ⟨c, hc, hp⟩ := (Option.any_eq_true _ _).1 this
  rw [Bool.and_eq_true, Bool.or_eq_true, bne_iff_ne, bne_iff_ne] at hp
  exact ⟨c, by rw [List.getLast?_append, hc]; rfl, hp.1, fun h => hp.2.resolve_left (by rw [h]; exact Bool.false_ne_true)⟩

theorem ne_dot {f : Fam} {s : Str} [IsName f s] : s ≠ c!"." := by
  obtain ⟨c, hc, hd, _⟩ := IsName.getLast (s := s)
  intro e
  rw [e] at hc
  exact hd (Option.some.inj hc).symm

theorem IsName.endsOk {f : Fam} {s : Str} [IsName f s] (h : f.clash .romPos = false := by decide) : endsOk s := by
  obtain ⟨c, hc, hd, hs⟩ := IsName.getLast (s := s)
  rw [W.endsOk, hc]
  exact ⟨fun e => hs h (Option.some.inj e), fun e => hd (Option.some.inj e)⟩

end W

namespace Ld

def last2 (s : Str) : List Char := s.reverse.take 2

theorem last2_gp : last2 c!"_gp" = ['p', 'g'] := by decide

theorem gp_ne_secStart (sty : Style) (n sec : Str) : c!"_gp" ≠ sty.secStart n sec := W.name_ne

def lastN (k : Nat) (s : Str) : List Char := s.reverse.take k

theorem lastN_append (k : Nat) (a suf : Str) (h : k ≤ suf.length) : lastN k (a ++ suf) = lastN k suf := by
  unfold lastN
  rw [List.reverse_append, List.take_append_of_le_length (by simpa using h)]

theorem last1_segVramSize' (sty : Style) (n : Str) : lastN 1 (sty.segVramSize n) ≠ lastN 1 (sty.classEnd n) := by
  cases sty
  all_goals
    unfold Style.segVramSize Style.classEnd
    simp only []
    rw [lastN_append _ _ _ (by decide), lastN_append _ _ _ (by decide)]
    decide

end Ld
end Slinky
