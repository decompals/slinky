/-
  C10 — vram classes: members overlay at the class start; end is the largest member end.
-/
import Props.ImageClass
namespace Slinky.C10
open Slinky W

/-- **an emitted segment naming an undeclared class makes generation fail.** -/
theorem missing_class_is_an_error (cx : Ctx) (em : List Str) (seg : Segment) (c : Str)
    (hinc : shouldEmit cx.o seg.cond = true) (hc : seg.vramClass = some c)
    (hnone : findClass cx.d c = none) :
    addSegment cx em seg = .error (.err .missingVramClassForSegment) := by
  unfold addSegment classPart
  simp [hinc, hc, hnone]

/-- an excluded segment writes nothing, whatever class it names. -/
theorem excluded_segment_is_silent (cx : Ctx) (em : List Str) (seg : Segment)
    (hexc : shouldEmit cx.o seg.cond = false) : addSegment cx em seg = .ok ([], em) :=
  addSegment_excluded hexc

/-- **the class symbols are written once, before the first emitted member**, which opens the class: its start symbol —
the `fixed_vram` literal, the `fixed_symbol` text, or `0` followed by one `MAX` with the end symbol of every followed
class in use — and its end symbol `= 0`; the class is then recorded as emitted. -/
theorem first_member_opens (cx : Ctx) (em : List Str) (seg : Segment) (c : Str) (vc : VramClass)
    (hc : seg.vramClass = some c) (hf : findClass cx.d c = some vc) (hfirst : c ∉ em) :
    classPart cx em seg = .ok (classIntro cx c vc, em ++ [c]) ∧
    classIntro cx c vc =
      (match vc.fixedVram, vc.fixedSymbol with
       | some v, _ => [linkerSym (cx.d.settings.style.classStart c) (.hex8 v)]
       | none, some fs => [linkerSym (cx.d.settings.style.classStart c) (.sym fs)]
       | none, none => linkerSym (cx.d.settings.style.classStart c) (.hex8 0) ::
           (followedUsed cx vc).map (fun o => maxSelf (cx.d.settings.style.classStart c) (cx.d.settings.style.classEnd o)))
      ++ [linkerSym (cx.d.settings.style.classEnd c) (.hex8 0), .blank] := by
  constructor
  · exact classPart_ok.2 (Or.inr ⟨c, vc, hc, hf, hfirst, rfl, rfl⟩)
  · unfold classIntro
    cases vc.fixedVram <;> cases vc.fixedSymbol <;> rfl

/-- every later member finds the class emitted and writes nothing for it again. -/
theorem later_member_is_silent (cx : Ctx) (em : List Str) (seg : Segment) (c : Str) (vc : VramClass)
    (hc : seg.vramClass = some c) (hf : findClass cx.d c = some vc) (hseen : c ∈ em) :
    classPart cx em seg = .ok ([], em) :=
  classPart_ok.2 (Or.inl ⟨rfl, rfl, Or.inr ⟨c, vc, hc, hf, hseen⟩⟩)

/-- **only classes in use are followed in the script**: `followedUsed` keeps of `follows_classes` the classes some
emitted segment names (a class without emitted members has no symbols to refer to). -/
theorem mem_followedUsed (cx : Ctx) (vc : VramClass) (other : Str) :
    other ∈ followedUsed cx vc ↔
      other ∈ vc.followsClasses ∧ ∃ s ∈ cx.d.segments, s.vramClass = some other ∧ shouldEmit cx.o s.cond = true := by
  unfold followedUsed
  simp only [List.mem_filter, List.any_eq_true, Bool.and_eq_true, decide_eq_true_eq]

/-- the list of opened classes only grows: a class is in it afterwards iff it was before or the segment is an emitted
member of it. -/
theorem emitted_grows (cx : Ctx) (em em' : List Str) (seg : Segment) (ls : List Line)
    (h : addSegment cx em seg = .ok (ls, em')) :
    ∀ c, c ∈ em' ↔ c ∈ em ∨ (shouldEmit cx.o seg.cond = true ∧ seg.vramClass = some c) := by
  intro c
  apply addSegment_elim h
  · rintro hs rfl; simp [hs]
  · intro hs cls alloc noload hcp _ _
    apply classPart_elim hcp
    · rintro rfl (hn | ⟨c', vc, hc', -, hm⟩)
      · simp [hn]
      · simp only [hs, hc', true_and, Option.some.injEq]
        exact ⟨Or.inl, fun h1 => h1.elim id (fun e => e ▸ hm)⟩
    · rintro c' vc hc' _ _ rfl
      simp only [hs, hc', true_and, Option.some.injEq, List.mem_append, List.mem_cons, List.mem_nil_iff, or_false, eq_comm]

/-- **every member segment starts at the class start and pushes the class end**: its header address is the class start
symbol, and after it `END = MAX(END, <seg>_VRAM_END)` is written. -/
theorem member_statements (cx : Ctx) (seg : Segment) (c : Str) (hc : seg.vramClass = some c)
    (h1 : seg.fixedVram = none) (h2 : seg.fixedSymbol = none) (h3 : seg.followsSegment = none)
    (cls alloc noload : List Line) :
    segAddr cx seg = some (cx.d.settings.style.classStart c) ∧
    maxSelf (cx.d.settings.style.classEnd c) (cx.d.settings.style.segVramEnd seg.name)
      ∈ segmentLines cx seg cls alloc noload := by
  constructor
  · simp [segAddr, h1, h2, h3, hc]
  · simp [segmentLines, hc]

/-- **one size symbol per opened class, and none for the others.** The size lines that `end_sections` writes first
(`C18.tail`) are `SIZE = END - START` for every declared class that was opened, once each, in declaration order. -/
theorem class_sizes (cx : Ctx) (em : List Str) :
    C18.classSizes cx em =
      ((dedup (cx.d.vramClasses.map (·.name))).filter (· ∈ em)).map (fun n =>
        linkerSym (cx.d.settings.style.classSize n)
          (.sub (cx.d.settings.style.classEnd n) (cx.d.settings.style.classStart n))) ∧
    (∀ n, n ∈ (dedup (cx.d.vramClasses.map (·.name))).filter (· ∈ em) ↔
        (∃ vc ∈ cx.d.vramClasses, vc.name = n) ∧ n ∈ em) ∧
    ((dedup (cx.d.vramClasses.map (·.name))).filter (· ∈ em)).Nodup := by
  refine ⟨rfl, ?_, ?_⟩
  · intro n
    simp only [List.mem_filter, mem_dedup, List.mem_map, decide_eq_true_eq]
  · exact List.Nodup.sublist List.filter_sublist (nodup_dedup _)


open Ld in
/-- **C10, image clause for the class start**: linking the class prologue leaves in the class start symbol the
`fixed_vram` value, the value of the `fixed_symbol`, or the largest value among the end symbols of the followed classes
in use, and 0 in the class end symbol. -/
theorem image_class_prologue (objs : List InSec) (cx : Ctx) (cname : Str) (vc : VramClass)
    (st : St) (ho : Outside st) (ev : Str → Nat) (k : List Line)
    (hfs : ∀ fs, vc.fixedVram = none → vc.fixedSymbol = some fs → lookupLast fs st.syms = some (.num (ev fs)))
    (hfo : vc.fixedVram = none → vc.fixedSymbol = none → ∀ o ∈ followedUsed cx vc,
      lookupLast (cx.d.settings.style.classEnd o) st.syms = some (.num (ev (cx.d.settings.style.classEnd o)))) :
    lookupLast (cx.d.settings.style.classEnd cname) (execK objs st (classIntro cx cname vc) k).syms = some (.num 0) ∧
    lookupLast (cx.d.settings.style.classStart cname) (execK objs st (classIntro cx cname vc) k).syms = some (.num
      (match vc.fixedVram with
       | some v => v
       | none => match vc.fixedSymbol with
         | some fs => ev fs
         | none => ((followedUsed cx vc).map cx.d.settings.style.classEnd).foldl (fun m o => max m (ev o)) 0)) :=
  (class_intro_image objs cx cname vc st ho ev k hfs hfo).2.2.2

open Ld in
/-- **C10, image clause "every member segment starts at the class start"**. -/
theorem image_member_starts_at_class_start (objs : List InSec) (cx : Ctx) (seg : Segment) (alloc noload : List Line) (c : Str)
    (hc : segAddr cx seg = some (cx.d.settings.style.classStart c))
    (ha : writeSegment cx seg seg.allocSections false = .ok alloc)
    (hn : writeSegment cx seg seg.noloadSections true = .ok noload)
    (hne : seg.allocSections ≠ []) (hsy : cx.emitSecSyms = true)
    (st : St) (ho : Outside st) (r : Nat) (hr : lookupLast Ld.romPos st.syms = some (.num r))
    (v : Nat) (hv : lookupLast (cx.d.settings.style.classStart c) st.syms = some (.num v)) (k : List Line) :
    ∃ (aE al : Nat) (lmaV : Option Nat),
      (⟨c!"." ++ seg.name, v, aE - v, lmaV, false, al⟩ : OutSec) ∈ (execK objs st (segmentLines cx seg [] alloc noload) k).secs :=
  member_starts_at_class objs cx seg alloc noload c hc ha hn hne hsy st ho r hr v hv k

open Ld in
/-- **C10, image clause for the class end**: behind each emitted member the class end symbol is the maximum of its
previous value and the member's VRAM end. -/
theorem image_class_end_accumulates (objs : List InSec) (cx : Ctx) (seg : Segment) (c : Str) (hc : seg.vramClass = some c)
    (st : St) (ho : Outside st) (r0 : Nat) (hr : lookupLast Ld.romPos st.syms = some (.num r0))
    (e0 : Nat) (he : lookupLast (cx.d.settings.style.classEnd c) st.syms = some (.num e0)) (k : List Line) :
    lookupLast (cx.d.settings.style.classEnd c) (execK objs st (segTail cx seg) k).syms
      = some (.num (max e0 (alignO seg.segmentEndAlign st.dot))) :=
  tail_class_end objs cx seg c hc st ho r0 hr e0 he k

end Slinky.C10
