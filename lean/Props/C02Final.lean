/-
  C02 in the image `Ld.link` returns: a segment without an address of its own does not start before the end of the
  segment emitted before it (a corollary of `C03.final_default_placement`; segments with an address of their own are
  where the document puts them, `C03.final_fixed_vram` / `final_fixed_symbol` / `final_follows_segment` /
  `C10.final_class_fixed_vram`).
-/
import Props.C03Default
import Props.C03Vram
namespace Slinky.C02
open Slinky W Ld

/-- **C02 in the linked image, for the whole ordinary script: default placement never goes back.** -/
theorem final_default_not_before_previous (objs : List InSec) (d : Document) (o : Opts) (vc : Bool) (script : List Line)
    (hmulti : d.settings.singleSegmentMode = false)
    (h : generateNormal d o vc = .ok script)
    (hall : ∀ s ∈ d.segments, shouldEmit o s.cond = true → s.allocSections ≠ [])
    (defsyms : List (Str × Nat))
    (pre post : List Segment) (seg f : Segment) (hsplit : d.segments = pre ++ seg :: post)
    (hinc : shouldEmit o seg.cond = true)
    (hfv : seg.fixedVram = none) (hfs : seg.fixedSymbol = none) (hfol : seg.followsSegment = none) (hcl : seg.vramClass = none)
    (hlast : C03.lastEmitted o none pre = some f)
    (hcnt : assignCount (d.settings.style.segVramEnd f.name) script ≤ 1) :
    ∃ os ∈ (link objs defsyms script).secs, os.name = c!"." ++ seg.name ∧ os.noload = false ∧
      ∃ e, (link objs defsyms script).sym (d.settings.style.segVramEnd f.name) = some e ∧ e ≤ os.addr := by
  obtain ⟨os, hos, g1, g2, _, g4⟩ := C03.final_default_placement objs d o vc script hmulti h hall defsyms pre post seg hsplit hinc hfv hfs hfol hcl
  rw [hlast] at g4
  obtain ⟨e, he, ha⟩ := g4 hcnt
  refine ⟨os, hos, g1, g2, e, he, ?_⟩
  rw [ha]
  exact Nat.le_trans (C03.le_alignO _ _) (le_alignUp _ _)

end Slinky.C02
