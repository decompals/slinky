/-
  C09, the alignment statements — tied to the source text (lean/Src/Formats.lean, regenerated from
  script_buffer.rs / linker_writer.rs on every run).
-/
import Src.Formats
import Slinkyv.Writer
import Props.Render
namespace Slinky.C09

theorem align_symbol_src (s : Str) (a : Nat) :
    (alignSymbol s a).renderBody = fmt Src.sb__align_symbol_0 [.s s, .s s, .n a] := by
  unfold alignSymbol Line.renderBody Expr.render Src.sb__align_symbol_0
  simp only [fmtNorm]
  rfl

/-- the location counter is the `.` of the calls in `add_segment` (start, end), `write_section_symbol_start`
and `write_section_symbol_end` (option for all sections, then the per-section table). -/
theorem dot_src : (c!"." : Str) = fmt Src.lw__add_segment_4 [] ∧ (c!"." : Str) = fmt Src.lw__add_segment_9 []
    ∧ (c!"." : Str) = fmt Src.lw__write_section_symbol_start_0 [] ∧ (c!"." : Str) = fmt Src.lw__write_section_symbol_start_1 []
    ∧ (c!"." : Str) = fmt Src.lw__write_section_symbol_end_0 [] ∧ (c!"." : Str) = fmt Src.lw__write_section_symbol_end_1 [] :=
  ⟨rfl, rfl, rfl, rfl, rfl, rfl⟩

/-- ` SUBALIGN(n)` with `n` in decimal, in both kinds of header. -/
theorem subalign_src (name : Str) (noload : Bool) (k : Nat) :
    ∃ front, (Line.outHdr name noload none none (some k)).renderBody = front ++ fmt Src.lw__write_segment_start_9 [.n k]
      ∧ Src.lw__write_segment_start_9 = Src.lw__write_single_segment_3 := by
  refine ⟨name ++ (if noload then c!" (NOLOAD) :" else c!" :"), ?_, rfl⟩
  unfold Line.renderBody Src.lw__write_segment_start_9
  cases noload <;> simp only [fmtNorm] <;> rfl

theorem counts_src : Src.sb__align_symbol_count = 1 := rfl

end Slinky.C09
