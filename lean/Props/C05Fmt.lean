/-
  C05, the statements that define the symbols — tied to the source text (lean/Src/Formats.lean,
  regenerated from script_buffer.rs / linker_writer.rs on every run).
-/
import Src.Formats
import Slinkyv.Writer
import Props.Render
namespace Slinky.C05

theorem linker_symbol_src (s : Str) (e : Expr) :
    (linkerSym s e).renderBody = fmt Src.sb__write_symbol_assignment_3 [.s s, .s e.render] := by
  unfold linkerSym Line.renderBody Src.sb__write_symbol_assignment_3
  simp only [fmtNorm]

theorem size_value_src (end_ start : Str) :
    (Expr.absSub end_ start).render = fmt Src.lw__write_sym_end_size_0 [.s end_, .s start] := by
  unfold Expr.render Src.lw__write_sym_end_size_0
  simp only [fmtNorm]

theorem dot_value_src : Expr.dot.render = fmt Src.lw__write_sections_kind_start_3 []
    ∧ Expr.dot.render = fmt Src.lw__write_sections_kind_end_3 []
    ∧ Expr.dot.render = fmt Src.lw__write_section_symbol_start_4 []
    ∧ Expr.dot.render = fmt Src.lw__write_section_symbol_end_2 [] := ⟨rfl, rfl, rfl, rfl⟩

/-- `format!("{}_{}", segment.name, if noload { "noload" } else { "alloc" })`. -/
theorem kind_name_src (seg : Segment) (noload : Bool) :
    kindName seg noload
      = fmt Src.lw__write_sections_kind_start_2
          [.s seg.name, .s (if noload then fmt Src.lw__write_sections_kind_start_0 [] else fmt Src.lw__write_sections_kind_start_1 [])]
    ∧ Src.lw__write_sections_kind_start_0 = Src.lw__write_sections_kind_end_0
    ∧ Src.lw__write_sections_kind_start_1 = Src.lw__write_sections_kind_end_1
    ∧ Src.lw__write_sections_kind_start_2 = Src.lw__write_sections_kind_end_2 := by
  refine ⟨?_, rfl, rfl, rfl⟩
  unfold kindName Src.lw__write_sections_kind_start_0 Src.lw__write_sections_kind_start_1
    Src.lw__write_sections_kind_start_2
  simp only [fmtNorm]

theorem counts_src : Src.lw__write_sections_kind_start_count = 4 ∧ Src.lw__write_sections_kind_end_count = 4
    ∧ Src.lw__write_section_symbol_start_count = 5 ∧ Src.lw__write_section_symbol_end_count = 3
    ∧ Src.lw__write_sym_end_size_count = 1 ∧ Src.sb__write_symbol_assignment_count = 4
    ∧ Src.sb__write_linker_symbol_count = 0 := ⟨rfl, rfl, rfl, rfl, rfl, rfl, rfl⟩

end Slinky.C05
