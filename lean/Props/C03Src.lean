/-
  C03, the output-section header and the address it carries — tied to the source text
  (lean/Src/Formats.lean, regenerated from linker_writer.rs on every run): the header line is put
  together from the literals of `write_segment_start` in the order and under the conditions of the
  code (`fixed_vram`, else `fixed_symbol`, else `follows_segment`, else `vram_class`).
-/
import Src.Formats
import Slinkyv.Writer
import Props.Render
namespace Slinky.C03

/-- `write_segment_start`'s `line`, assembled from the source's templates. -/
def srcHeader (st : Style) (seg : Segment) (noload : Bool) : Str :=
  fmt Src.lw__write_segment_start_2
      [.s seg.name, .s (if noload then fmt Src.lw__write_segment_start_0 [] else fmt Src.lw__write_segment_start_1 [])]
  ++ (if noload then fmt Src.lw__write_segment_start_3 []
      else
        (match seg.fixedVram with
         | some v => fmt Src.lw__write_segment_start_4 [.n v]
         | none =>
           match seg.fixedSymbol with
           | some s => fmt Src.lw__write_segment_start_5 [.s s]
           | none =>
             match seg.followsSegment with
             | some f => fmt Src.lw__write_segment_start_6 [.s (st.segVramEnd f)]
             | none =>
               match seg.vramClass with
               | some c => fmt Src.lw__write_segment_start_7 [.s (st.classStart c)]
               | none => [])
        ++ fmt Src.lw__write_segment_start_8 [.s (st.segRomStart seg.name)])
  ++ (match seg.subalign with | some k => fmt Src.lw__write_segment_start_9 [.n k] | none => [])

def modelHeader (cx : Ctx) (seg : Segment) (noload : Bool) : Line :=
  if noload then .outHdr (c!"." ++ seg.name ++ c!".noload") true none none seg.subalign
  else .outHdr (c!"." ++ seg.name) false (segAddr cx seg) (some (cx.d.settings.style.segRomStart seg.name)) seg.subalign

theorem segmentStart_header (cx : Ctx) (seg : Segment) (noload : Bool) :
    segmentStart cx seg noload = kindStart cx seg noload ++ [modelHeader cx seg noload, .blockOpen] := rfl

theorem header_src (cx : Ctx) (seg : Segment) (noload : Bool) :
    (modelHeader cx seg noload).renderBody = srcHeader cx.d.settings.style seg noload := by
  unfold modelHeader srcHeader segAddr Src.lw__write_segment_start_0 Src.lw__write_segment_start_1
    Src.lw__write_segment_start_2 Src.lw__write_segment_start_3 Src.lw__write_segment_start_4
    Src.lw__write_segment_start_5 Src.lw__write_segment_start_6 Src.lw__write_segment_start_7
    Src.lw__write_segment_start_8 Src.lw__write_segment_start_9
  cases noload
  -- both texts are normalised with the options still undecided; then each case is a computation
  all_goals
    simp only [if_true, if_false, Bool.false_eq_true]
    unfold Line.renderBody
    simp only [fmtNorm, if_true, if_false, Bool.false_eq_true]
  case true => cases seg.subalign <;> rfl
  case false =>
    -- the address request apart from the rest of the line
    congr 3
    rcases seg.fixedVram with _ | _
    rcases seg.fixedSymbol with _ | _
    rcases seg.followsSegment with _ | _
    rcases seg.vramClass with _ | _
    all_goals rfl

theorem vram_start_src (sym name : Str) :
    (linkerSym sym (.addr (c!"." ++ name))).renderBody
      = fmt Src.sb__write_symbol_assignment_3 [.s sym, .s (fmt Src.lw__add_segment_6 [.s name])] := by
  unfold linkerSym Line.renderBody Expr.render Src.sb__write_symbol_assignment_3 Src.lw__add_segment_6
  simp only [fmtNorm]
  rfl

theorem single_segment_start_src (v : Nat) :
    (Line.assign c!"." (.hex8 v) false false false).renderBody = fmt Src.lw__add_single_segment_2 [.n v] := by
  unfold Line.renderBody Expr.render Src.lw__add_single_segment_2
  simp only [fmtNorm]
  rfl

theorem single_segment_header_src (sec : Str) (noload : Bool) (sub : Option Nat) :
    (Line.outHdr sec noload none none sub).renderBody
      = fmt Src.lw__write_single_segment_0
          [.s sec, .s (if noload then fmt Src.lw__write_single_segment_1 [] else fmt Src.lw__write_single_segment_2 [])]
        ++ (match sub with | some k => fmt Src.lw__write_single_segment_3 [.n k] | none => []) := by
  unfold Line.renderBody Src.lw__write_single_segment_0 Src.lw__write_single_segment_1
    Src.lw__write_single_segment_2 Src.lw__write_single_segment_3
  simp only [fmtNorm]
  cases noload <;> cases sub <;> rfl

theorem counts_src : Src.lw__write_segment_start_count = 10 ∧ Src.lw__write_single_segment_count = 5
    ∧ Src.lw__add_segment_count = 12 := ⟨rfl, rfl, rfl⟩

end Slinky.C03
