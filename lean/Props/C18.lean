/-
  C18 — allowlisted sections survive, denied and unplaced sections are discarded.
-/
import Props.C17
import Props.ImageTail
import Props.WriterInv
namespace Slinky.C18
open Slinky W

/-- **the tail of every script** (multi-segment, single-segment and partial sub-scripts all
end with `end_sections`): ignoring blank lines, after the class sizes come one single-entry
output section per `sections_allowlist` and per `sections_allowlist_extra` element, then — iff
the wildcard is on or the denylist is non-empty — a `/DISCARD/` block holding the denylist patterns
and then `*(*)` iff the wildcard is on, as the last thing inside `SECTIONS`. -/
theorem tail (cx : Ctx) (emitted : List Str) :
    ((endSections cx emitted).filter C17.nonBlank).map Line.renderBody
      = (classSizes cx emitted).map Line.renderBody ++ expectedTail cx.d.settings := by
  have hb : ∀ b, (blankIf b).filter C17.nonBlank = [] := fun b => by cases b <;> rfl
  have hs : (classSizes cx emitted).filter C17.nonBlank = classSizes cx emitted :=
    C17.filter_map_nonBlank _ _ fun _ => rfl
  have he : ∀ l, ((singleEntries l).filter C17.nonBlank).map Line.renderBody = l.map (fun x => x ++ c!" 0 : { *(" ++ x ++ c!"); }") := by
    intro l
    rw [singleEntries, C17.filter_map_nonBlank _ _ fun _ => rfl, List.map_map]
    refine List.map_congr_left fun x _ => ?_
    unfold Function.comp Line.renderBody
    simp only [List.append_assoc]
    rfl
  have hp : (cx.d.settings.sectionsDenylist.map Line.discardPat).filter C17.nonBlank = _ :=
    C17.filter_map_nonBlank _ _ fun _ => rfl
  rw [endSections_eq]
  -- `filter` and `map` go through the appends and both `if`s; the fixed lines that remain are rendered by computation
  simp only [List.filter_append, List.map_append, apply_ite (List.filter C17.nonBlank), apply_ite (List.map Line.renderBody),
    discardBlock, hb, hs, he, hp, List.map_map, List.nil_append, expectedTail, List.append_assoc]
  rfl

open Ld in
/-- **C18, image clause for the allowlists**: a single-entry section `sec 0 : { *(sec); }`
places every input section of that name that nothing placed or discarded before in an output
section of that name, and takes nothing a segment placed. -/
theorem image_allowlisted_survive (objs : List InSec) (st : St) (sec addr : Str) (r : List Line) :
    (∀ i ∈ objs, i.sec = sec → isFree st i = true →
      ∃ p ∈ (step objs st (.singleEntry sec addr) r).placed, p.inp = i ∧ p.out = sec) ∧
    (∃ new, (step objs st (.singleEntry sec addr) r).placed = st.placed ++ new ∧
      ∀ p ∈ new, isFree st p.inp = true ∧ p.inp.sec = sec) :=
  ⟨single_entry_image objs st sec addr r, single_entry_only_free objs st sec addr r⟩

open Ld in
/-- **C18, image clause for `/DISCARD/`**: a pattern line leaves what is placed, discards every matching
input section that is still free — every free one for `*(*)` — and an input section that a segment
or an allowlist placed is not free: it is not in the list the line adds to the discarded ones
(`Ld.discard_pat_image` says that the line adds exactly that list). -/
theorem image_discard_only_unplaced (objs : List InSec) (st : St) (hd : st.inDiscard = true) (pat : Str) (r : List Line) :
    (step objs st (.discardPat pat) r).placed = st.placed ∧
    (∀ i ∈ objs, isFree st i = true → (pat = c!"*" ∨ i.sec = pat) → i ∈ (step objs st (.discardPat pat) r).discarded) ∧
    (∀ p ∈ st.placed, p.inp ∉ objs.filter (fun i => (pat = c!"*" || i.sec = pat) && isFree st i)) := by
  obtain ⟨h1, _, h3⟩ := discard_pat_image objs st hd pat r
  refine ⟨h1, h3, ?_⟩
  intro p hp hmem
  simp only [List.mem_filter, Bool.and_eq_true] at hmem
  have := placed_not_free st p hp
  rw [this] at hmem
  exact absurd hmem.2.2 (by simp)

end Slinky.C18
