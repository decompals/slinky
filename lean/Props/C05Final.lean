/-
  C05 in the image `Ld.link` returns: the start, end and size symbols of a section group. `group_run`
  (Props/ImageGroup.lean) speaks about one group, entered *inside* its output section. This file supplies the way
  there — the link reaches that group inside the output section (`group_in_section`, `group_in_segment`; `group_cut`
  for a whole main script) — and the way back: the three symbols keep their values to the end of the script when the
  script assigns each of them once (`Once.image`).
-/
import Props.Example
import Props.MainScript
namespace Slinky.C05
open Slinky W Ld

theorem sectionLoop_split (f : Str → R (List Line)) : ∀ (s1 : List Str) (sec : Str) (s2 : List Str) (body : List Line),
    sectionLoop f (s1 ++ sec :: s2) = .ok body → ∃ P g Q, f sec = .ok g ∧ body = P ++ g ++ Q :=
  W.sectionLoop_split f

theorem writeSegment_split (cx : Ctx) (seg : Segment) (noload : Bool) (ls : List Line) (s1 : List Str) (sec : Str) (s2 : List Str)
    (h : writeSegment cx seg (s1 ++ sec :: s2) noload = .ok ls) :
    ∃ (fill P emitted Q : List Line),
      ls = segmentStart cx seg noload ++ fill ++ P ++ (sectionSymStart cx seg sec ++ emitted ++ sectionSymEnd cx seg sec) ++ Q
              ++ [.blockClose] ++ kindEnd cx seg noload ∧
      (fill = [] ∨ ∃ v, fill = [Line.fill v]) ∧
      (∀ l ∈ P, InnerLine cx.d.settings.style seg.wildcardSections l) ∧
      (∀ l ∈ emitted, BodyLine cx.d.settings.style seg.wildcardSections l) ∧
      (∀ l ∈ Q, InnerLine cx.d.settings.style seg.wildcardSections l) := by
  obtain ⟨body, hbody, rfl⟩ := writeSegment_ok.1 h
  have hin := sectionLoop_inner hbody
  obtain ⟨P, g, Q, hg, rfl⟩ := W.sectionLoop_split _ s1 sec s2 body hbody
  obtain ⟨emitted, hem, rfl⟩ := groupE_ok.1 hg
  exact ⟨fillLines seg, P, emitted, Q, by simp only [groupOf, List.append_assoc], fillLines_cases seg,
    fun l hl => hin l (by simp [hl]), emitSection_body cx seg sec _ emitted hem, fun l hl => hin l (by simp [hl])⟩

theorem header_inside (objs : List InSec) (st : St) (hd : st.inDiscard = false) (m : Str) (nl : Bool) (a lm : Option Str)
    (sub : Option Nat) (k : List Line) : ∃ c, Inside c (execK objs st [Line.outHdr m nl a lm sub, .blockOpen] k) :=
  ⟨_, rfl, Nat.le_refl _, hd⟩

theorem segmentStart_inside (objs : List InSec) (cx : Ctx) (seg : Segment) (noload : Bool) (st : St) (ho : Outside st)
    (k : List Line) : ∃ c, Inside c (execK objs st (segmentStart cx seg noload) k) := by
  unfold segmentStart
  rw [execK_append]
  cases noload <;>
    exact header_inside objs _ (run_outer objs _ (kindStart_outer cx seg _) st ho _).1.nd _ _ _ _ _ k

/-- **the link reaches the group of a section inside its output section**: the statements of an output section are
`A ++ G ++ B` with `G` the group, and `A` (kind start symbol, header, `{`, `FILL`, the groups in front) leads from
every state outside an output section to a state inside one. -/
theorem group_in_section (objs : List InSec) (cx : Ctx) (seg : Segment) (noload : Bool) (ls : List Line)
    (s1 : List Str) (sec : Str) (s2 : List Str)
    (h : writeSegment cx seg (s1 ++ sec :: s2) noload = .ok ls) :
    ∃ (A emitted B : List Line), ls = A ++ groupOf cx seg sec emitted ++ B ∧
      (∀ l ∈ emitted, BodyLine cx.d.settings.style seg.wildcardSections l) ∧
      ∀ (st : St) (_ : Outside st) (k : List Line), ∃ c, Inside c (execK objs st A k) := by
  obtain ⟨fill, P, emitted, Q, hls, hfill, hP, hem, hQ⟩ := writeSegment_split cx seg noload ls s1 sec s2 h
  refine ⟨segmentStart cx seg noload ++ fill ++ P, emitted, Q ++ [.blockClose] ++ kindEnd cx seg noload, ?_, hem, ?_⟩
  · rw [hls]; simp only [groupOf, List.append_assoc]
  · intro st ho k
    obtain ⟨c, hin⟩ := segmentStart_inside objs cx seg noload st ho (fill ++ (P ++ k))
    have hfillno : ∀ s : St, execK objs s fill (P ++ k) = s := fun s => by rcases hfill with rfl | ⟨v, rfl⟩ <;> rfl
    simp only [execK_append, List.append_assoc, hfillno]
    exact ⟨c, (run_inner objs _ _ c P hP _ hin k).inside⟩

/-- `group_in_section` within the statements `add_segment` writes for an emitted segment (allocatable part:
`nl = false`, noload part: `nl = true`), from every state outside an output section in which the ROM counter is a
number. -/
theorem group_in_segment (objs : List InSec) (cx : Ctx) (seg : Segment) (cls alloc noload : List Line)
    (hcls : ∀ l ∈ cls, OuterLine l ∧ symOf l ≠ some romPos)
    (ha : writeSegment cx seg seg.allocSections false = .ok alloc)
    (hn : writeSegment cx seg seg.noloadSections true = .ok noload)
    (nl : Bool) (s1 : List Str) (sec : Str) (s2 : List Str)
    (hs : (if nl then seg.noloadSections else seg.allocSections) = s1 ++ sec :: s2) :
    ∃ (A emitted B : List Line), segmentLines cx seg cls alloc noload = A ++ groupOf cx seg sec emitted ++ B ∧
      (∀ l ∈ emitted, BodyLine cx.d.settings.style seg.wildcardSections l) ∧
      ∀ (st : St) (_ : Outside st) (r : Nat) (_ : lookupLast romPos st.syms = some (.num r)) (k : List Line),
        ∃ c, Inside c (execK objs st A k) := by
  -- the statements `F` in front of the output section of `sec` lead to a state between output sections again
  obtain ⟨F, part, G, hform, hpart, hF⟩ : ∃ F part G, segmentLines cx seg cls alloc noload = F ++ (part ++ G) ∧
      writeSegment cx seg (s1 ++ sec :: s2) nl = .ok part ∧
      ∀ (st : St), Outside st → ∀ r, lookupLast romPos st.syms = some (.num r) → ∀ k, Outside (execK objs st F k) := by
    have hfront := fun st ho r hr k =>
      (head_image objs cx seg cls hcls st ho r hr k).1
    cases nl with
    | false =>
      exact ⟨_, alloc, _, by rw [segmentLines_parts, List.append_assoc], (show seg.allocSections = _ from hs) ▸ ha, hfront⟩
    | true =>
      refine ⟨cls ++ segHead cx seg ++ (alloc ++ [.blank]), noload, .blank :: segTail cx seg, ?_,
        (show seg.noloadSections = _ from hs) ▸ hn, fun st ho r hr k => ?_⟩
      · rw [segmentLines_parts]; simp only [List.append_assoc, List.cons_append, List.nil_append]
      · rw [execK_append, execK_append]
        obtain ⟨_, _, _, _, h5⟩ :=
          section_run objs cx seg seg.allocSections false alloc ha _ (hfront st ho r hr (alloc ++ [.blank] ++ k)) ([.blank] ++ k)
        exact h5.outside
  obtain ⟨A, emitted, B, rfl, hem, hst⟩ := group_in_section objs cx seg nl part s1 sec s2 hpart
  exact ⟨F ++ A, emitted, B ++ G, by rw [hform]; simp only [List.append_assoc], hem,
    fun st ho r hr k => by rw [execK_append]; exact hst _ (hF st ho r hr _) k⟩

theorem group_assigns (cx : Ctx) (seg : Segment) (sec : Str) (emitted : List Line) (hsy : cx.emitSecSyms = true) :
    1 ≤ assignCount (cx.d.settings.style.secStart seg.name sec) (groupOf cx seg sec emitted) ∧
    1 ≤ assignCount (cx.d.settings.style.secEnd seg.name sec) (groupOf cx seg sec emitted) ∧
    1 ≤ assignCount (cx.d.settings.style.secSize seg.name sec) (groupOf cx seg sec emitted) := by
  unfold groupOf
  rw [groupStart_eq cx seg sec hsy, groupEnd_eq cx seg sec hsy]
  have pos : ∀ {f : Fam} {s : Str} [IsName f s] (e : Expr) {ls : List Line}, linkerSym s e ∈ ls → 1 ≤ assignCount s ls :=
    fun e _ hl => assignCount_pos hl (symOf_linkerSym e)
  refine ⟨pos .dot ?_, pos .dot ?_,
    pos (.absSub (cx.d.settings.style.secEnd seg.name sec) (cx.d.settings.style.secStart seg.name sec)) ?_⟩ <;>
    simp only [List.mem_append, List.mem_cons, true_or, or_true]

/-- **a main script cut at the group of one section**: the link reaches the group `G` inside its output section, the
image is that of the run of `G` and of what follows (`B`), and the script assigns a name at least as often as `G` and
`B` do. -/
theorem group_cut (objs : List InSec) {cx : Ctx} {segs : List Segment} {script : List Line}
    (hS : MainScript cx segs script) (defsyms : List (Str × Nat))
    (pre post : List Segment) (seg : Segment) (hsplit : segs = pre ++ seg :: post)
    (hinc : shouldEmit cx.o seg.cond = true)
    (nl : Bool) (s1 : List Str) (sec : Str) (s2 : List Str)
    (hs : (if nl then seg.noloadSections else seg.allocSections) = s1 ++ sec :: s2) :
    ∃ (emittedG B : List Line) (c : Cur) (st3 : St),
      (∀ l ∈ emittedG, BodyLine cx.d.settings.style seg.wildcardSections l) ∧ Inside c st3 ∧
      link objs defsyms script = imageOf (execK objs (execK objs st3 (groupOf cx seg sec emittedG) B) B []) ∧
      ∀ n, assignCount n (groupOf cx seg sec emittedG) + assignCount n B ≤ assignCount n script := by
  obtain ⟨c⟩ := hS.cut objs defsyms pre seg post hsplit
  obtain ⟨cls, alloc, noload, hseg, ha, hn, hcls⟩ := addSegment_emitted c.hseg hinc
  obtain ⟨A, emittedG, B, hlines, hem, hreach⟩ := group_in_segment objs cx seg cls alloc noload hcls ha hn nl s1 sec s2 hs
  have himg := c.image
  have hb2 := c.reached
  rw [hseg, hlines] at himg hb2
  obtain ⟨r, hr⟩ := hb2.rom
  obtain ⟨cur, hin⟩ := hreach _ hb2.out r hr (groupOf cx seg sec emittedG ++ (B ++ c.R))
  refine ⟨emittedG, B ++ c.R, cur, _, hem, hin, ?_, fun n => ?_⟩
  · rw [himg, ← List.append_nil c.R, ← execK_append]
    simp only [execK_append, List.append_assoc, List.append_nil]
  · rw [c.count, hseg, hlines]; simp only [assignCount_append]; omega

theorem group_symbols_main (objs : List InSec) {cx : Ctx} {segs : List Segment} {script : List Line}
    (hS : MainScript cx segs script) (defsyms : List (Str × Nat))
    (pre post : List Segment) (seg : Segment) (hsplit : segs = pre ++ seg :: post)
    (hinc : shouldEmit cx.o seg.cond = true)
    (nl : Bool) (s1 : List Str) (sec : Str) (s2 : List Str)
    (hs : (if nl then seg.noloadSections else seg.allocSections) = s1 ++ sec :: s2)
    (hc1 : assignCount (cx.d.settings.style.secStart seg.name sec) script ≤ 1)
    (hc2 : assignCount (cx.d.settings.style.secEnd seg.name sec) script ≤ 1)
    (hc3 : assignCount (cx.d.settings.style.secSize seg.name sec) script ≤ 1) :
    ∃ s e : Nat, s ≤ e ∧
      (link objs defsyms script).sym (cx.d.settings.style.secStart seg.name sec) = some s ∧
      (link objs defsyms script).sym (cx.d.settings.style.secEnd seg.name sec) = some e ∧
      (link objs defsyms script).sym (cx.d.settings.style.secSize seg.name sec) = some ((e + M32 - s % M32) % M32) := by
  obtain ⟨emittedG, B, c, st3, hem, hin, himg, hcnt⟩ := group_cut objs hS defsyms pre post seg hsplit hinc nl s1 sec s2 hs
  obtain ⟨a1, a2, a3⟩ := group_assigns cx seg sec emittedG hS.syms
  obtain ⟨sv, ev, new, g⟩ := group_run objs cx seg sec hS.syms emittedG hem c st3 hin B
  rw [himg]
  exact ⟨sv, ev, g.le, Once.image ⟨a1, fun _ => g.startSym⟩ objs B (Nat.le_trans (hcnt _) hc1),
    Once.image ⟨a2, fun _ => g.endSym⟩ objs B (Nat.le_trans (hcnt _) hc2),
    Once.image ⟨a3, fun _ => g.sizeSym⟩ objs B (Nat.le_trans (hcnt _) hc3)⟩

/-- **C05 in the linked image, for the whole ordinary script: the symbols of a section group.** For an emitted segment
and a section of its allocatable (`nl = false`) or noload (`nl = true`) list whose start, end and size symbols the
script assigns once each, the image holds numbers `s ≤ e` with the start symbol `s`, the end symbol `e` and the size
symbol `e - s` (as a 32-bit value). -/
theorem final_group_symbols (objs : List InSec) (d : Document) (o : Opts) (vc : Bool) (script : List Line)
    (hmulti : d.settings.singleSegmentMode = false)
    (h : generateNormal d o vc = .ok script)
    (hall : ∀ s ∈ d.segments, shouldEmit o s.cond = true → s.allocSections ≠ [])
    (defsyms : List (Str × Nat))
    (pre post : List Segment) (seg : Segment) (hsplit : d.segments = pre ++ seg :: post)
    (hinc : shouldEmit o seg.cond = true)
    (nl : Bool) (s1 : List Str) (sec : Str) (s2 : List Str)
    (hs : (if nl then seg.noloadSections else seg.allocSections) = s1 ++ sec :: s2)
    (hc1 : assignCount (d.settings.style.secStart seg.name sec) script ≤ 1)
    (hc2 : assignCount (d.settings.style.secEnd seg.name sec) script ≤ 1)
    (hc3 : assignCount (d.settings.style.secSize seg.name sec) script ≤ 1) :
    ∃ s e : Nat, s ≤ e ∧
      (link objs defsyms script).sym (d.settings.style.secStart seg.name sec) = some s ∧
      (link objs defsyms script).sym (d.settings.style.secEnd seg.name sec) = some e ∧
      (link objs defsyms script).sym (d.settings.style.secSize seg.name sec) = some ((e + M32 - s % M32) % M32) :=
  group_symbols_main objs (MainScript.normal d o vc script hmulti h hall) defsyms pre post seg hsplit hinc nl s1 sec s2 hs hc1 hc2 hc3

/-- `final_group_symbols` for the main script of partial mode. -/
theorem final_group_symbols_partial (objs : List InSec) (d : Document) (o : Opts) (vc : Bool) (out : PartialOut)
    (h : generatePartial d o vc = .ok out)
    (hall : ∀ s ∈ d.segments, shouldEmit o s.cond = true → s.allocSections ≠ [])
    (defsyms : List (Str × Nat)) (folder : Str) (hfolder : d.settings.partialBuildSegmentsFolder = some folder)
    (pre post : List Segment) (seg : Segment) (hsplit : C03.partialSegs d o folder = pre ++ seg :: post)
    (nl : Bool) (s1 : List Str) (sec : Str) (s2 : List Str)
    (hs : (if nl then seg.noloadSections else seg.allocSections) = s1 ++ sec :: s2)
    (hc1 : assignCount (d.settings.style.secStart seg.name sec) out.main ≤ 1)
    (hc2 : assignCount (d.settings.style.secEnd seg.name sec) out.main ≤ 1)
    (hc3 : assignCount (d.settings.style.secSize seg.name sec) out.main ≤ 1) :
    ∃ s e : Nat, s ≤ e ∧
      (link objs defsyms out.main).sym (d.settings.style.secStart seg.name sec) = some s ∧
      (link objs defsyms out.main).sym (d.settings.style.secEnd seg.name sec) = some e ∧
      (link objs defsyms out.main).sym (d.settings.style.secSize seg.name sec) = some ((e + M32 - s % M32) % M32) :=
  group_symbols_main objs (MainScript.partial d o vc out h hall folder hfolder) defsyms pre post seg hsplit
    (C03.partialSegs_split_emitted hsplit) nl s1 sec s2 hs hc1 hc2 hc3

/-- the hypotheses are met and the numbers are real: in the example document of `Props/Example.lean` the `.text` group of `boot`
holds the 20 bytes of `a.o(.text)` at 0x80000000, and the `.bss` group of its noload part the 100 bytes behind them
(rounded up to 8). -/
example : (match generateNormal C04.exDoc C04.exOpts false with
    | .ok script =>
      decide (assignCount c!"boot_TEXT_START" script = 1) && decide (assignCount c!"boot_TEXT_END" script = 1)
      && decide (assignCount c!"boot_BSS_SIZE" script = 1)
      && decide ((link C04.exObjs [] script).sym c!"boot_TEXT_START" = some 0x80000000)
      && decide ((link C04.exObjs [] script).sym c!"boot_TEXT_END" = some 0x80000014)
      && decide ((link C04.exObjs [] script).sym c!"boot_TEXT_SIZE" = some 20)
      && decide ((link C04.exObjs [] script).sym c!"boot_BSS_START" = some 0x80000018)
      && decide ((link C04.exObjs [] script).sym c!"boot_BSS_SIZE" = some 100)
    | .error _ => false) = true := by decide_with C04.exImage_eq

end Slinky.C05
