/-
  Which kinds of lines each layer of the writer model can emit: the per-file emitter (`BodyLine`), the section
  symbols around it (`InnerLine`); and the coarser kind `simple` (none of the structural statements) with one lemma
  next to each fragment that consists of such lines.
-/
import Props.Emit
import Props.Names
namespace Slinky
namespace W

theorem concatMapE_mem {α β ε} (f : α → Except ε (List β)) (l : List α) (r : List β)
    (h : concatMapE f l = .ok r) : ∀ x ∈ r, ∃ a ∈ l, ∃ ra, f a = .ok ra ∧ x ∈ ra :=
  fun _ hx => mem_of_concatMapE_ok h hx

/-- the only lines the per-file emitter can produce. -/
inductive BodyLine (st : Style) (wild : Bool) : Line → Prop
  | input (k : Bool) (p : Str) (m : Option Str) (s : Str) : BodyLine st wild (.input k p m s wild)
  | pad (n : Nat) : BodyLine st wild (.addAssign c!"." (.hex n))
  | offset (nm : Str) : BodyLine st wild (linkerSym (st.linkerOffset nm) .dot)

theorem fileBody_mem {cx : Ctx} {seg : Segment} {grp : Str → R (List Line)} {f : FileInfo} {k base : Str}
    {a : List Line} (h : fileBody cx seg grp f k base = .ok a) {l : Line} (hl : l ∈ a) :
    BodyLine cx.d.settings.style seg.wildcardSections l ∨ ∃ d r, grp d = .ok r ∧ l ∈ r := by
  unfold fileBody at h
  split at h
  · obtain ⟨p, _, h⟩ := bind_eq_ok.1 h
    cases h
    cases List.mem_singleton.1 hl
    exact .inl (.input _ _ _ _)
  · obtain ⟨p, _, h⟩ := bind_eq_ok.1 h
    cases h
    cases List.mem_singleton.1 hl
    exact .inl (.input _ _ _ _)
  · cases h
    split at hl
    · cases List.mem_singleton.1 hl
      exact .inl (.pad _)
    · cases hl
  · cases h
    split at hl
    · cases List.mem_singleton.1 hl
      exact .inl (.offset _)
    · cases hl
  · obtain ⟨d, _, h⟩ := bind_eq_ok.1 h
    exact .inr ⟨_, a, h, hl⟩

theorem emitEntry_body (cx : Ctx) (seg : Segment) (secs : List Str) :
    ∀ (fuel : Nat) (f : FileInfo) (sec base : Str) (parents : List Str) (ls : List Line),
      emitEntry cx seg secs fuel f sec base parents = .ok ls →
      ∀ l ∈ ls, BodyLine cx.d.settings.style seg.wildcardSections l := by
  intro fuel
  induction fuel with
  | zero => intro f sec base parents ls h; cases h
  | succ n ih =>
    intro f sec base parents ls h l hl
    rw [emitEntry_succ] at h
    split at h
    · cases h; cases hl
    split at h
    · cases h
    obtain ⟨k, _, rk, hk, hlk⟩ := mem_of_concatMapE_ok h hl
    obtain ⟨a, b, ha, hb, rfl⟩ := appendE_eq_ok.1 hk
    rcases List.mem_append.1 hlk with hla | hlb
    · rcases fileBody_mem ha hla with hl | ⟨d, r, hr, hlr⟩
      · exact hl
      · obtain ⟨c, _, rc, hc, hlc⟩ := mem_of_concatMapE_ok hr hlr
        exact ih _ _ _ _ _ hc l hlc
    · split at hb
      · cases hb; cases hlb
      · obtain ⟨o, _, ro, ho, hlo⟩ := mem_of_concatMapE_ok hb hlb
        exact ih _ _ _ _ _ ho l hlo

theorem emitSection_body (cx : Ctx) (seg : Segment) (sec : Str) (secs : List Str) (ls : List Line)
    (h : emitSection cx seg sec secs = .ok ls) :
    ∀ l ∈ ls, BodyLine cx.d.settings.style seg.wildcardSections l := by
  rw [emitSection_eq_bind] at h
  obtain ⟨base, _, h⟩ := bind_eq_ok.1 h
  intro l hl
  obtain ⟨file, _, rf, hf, hlf⟩ := mem_of_concatMapE_ok h hl
  exact emitEntry_body cx seg secs _ _ _ _ _ _ hf l hlf

/-- lines that may appear between the braces of an output section of a segment (multi-segment
layout), or around them in the single-segment layout. -/
inductive InnerLine (st : Style) (wild : Bool) : Line → Prop
  | body {l : Line} (h : BodyLine st wild l) : InnerLine st wild l
  | blank : InnerLine st wild .blank
  | alignDot (a : Nat) : InnerLine st wild (alignSymbol c!"." a)
  | gp (off : Str) (p h : Bool) : InnerLine st wild (.assign c!"_gp" (.dotPlus off) p h false)
  | symDot (s : Str) (hs : endsOk s) : InnerLine st wild (linkerSym s .dot)
  | symSize (s a b : Str) (hs : endsOk s) : InnerLine st wild (linkerSym s (.absSub a b))

theorem optAlign_mem {o : Option Nat} {l : Line}
    (hl : l ∈ (match o with | some a => [alignSymbol c!"." a] | none => [])) : ∃ a, l = alignSymbol c!"." a := by
  cases o with
  | none => cases hl
  | some a => exact ⟨a, List.mem_singleton.1 hl⟩

theorem gpLine_mem {cx : Ctx} {seg : Segment} {sec : Str} {l : Line} (hl : l ∈ gpLine cx seg sec) :
    ∃ off p h, l = .assign c!"_gp" (.dotPlus off) p h false := by
  unfold gpLine at hl
  split at hl
  · cases hl
  · split at hl
    · exact ⟨_, _, _, List.mem_singleton.1 hl⟩
    · cases hl

/-- a line that is none of the six structural statements: a header, `}`, an input statement, a single-entry section,
`/DISCARD/` or one of its patterns. What the writer puts around and between the braces is simple (one lemma next to each
fragment); what a reader of scripts makes of a simple line is one lemma per reader (`simple_ne`, `Ld.hdrOf_simple`,
`C11.simple_facts`). -/
def simple : Line → Bool
  | .outHdr _ _ _ _ _ | .blockClose | .input _ _ _ _ _ | .singleEntry _ _ | .discardHdr | .discardPat _ => false
  | _ => true

/-- `simple_all rfl` settles an explicit list: `simple` computes on every member. -/
theorem simple_all {L : List Line} (h : L.all simple = true) : ∀ l ∈ L, simple l = true := List.all_eq_true.1 h

theorem simple_ne {l : Line} (h : simple l = true) : l ≠ .discardHdr ∧ l ≠ .blockClose :=
  ⟨fun e => (nomatch e ▸ h), fun e => (nomatch e ▸ h)⟩

theorem versionComment_simple (b : Bool) : ∀ l ∈ versionComment b, simple l = true := by
  cases b <;> exact simple_all rfl

theorem beginSections_simple (cx : Ctx) : ∀ l ∈ beginSections cx, simple l = true := by
  unfold beginSections
  cases cx.d.settings.hardcodedGpValue <;> exact simple_all rfl

theorem kindStart_simple (cx : Ctx) (seg : Segment) (nl : Bool) : ∀ l ∈ kindStart cx seg nl, simple l = true := by
  unfold kindStart
  split <;> exact simple_all rfl

theorem kindEnd_simple (cx : Ctx) (seg : Segment) (nl : Bool) : ∀ l ∈ kindEnd cx seg nl, simple l = true := by
  unfold kindEnd
  split <;> exact simple_all rfl

theorem sectionSymStart_lines (cx : Ctx) (seg : Segment) (sec : Str) :
    ∀ l ∈ sectionSymStart cx seg sec, InnerLine cx.d.settings.style seg.wildcardSections l ∧ simple l = true := by
  intro l hl
  unfold sectionSymStart at hl
  split at hl
  · simp only [List.mem_append, List.mem_cons, List.mem_nil_iff, or_false] at hl
    rcases hl with ((hl | hl) | hl) | hl
    · obtain ⟨a, rfl⟩ := optAlign_mem hl
      exact ⟨.alignDot a, rfl⟩
    · obtain ⟨a, rfl⟩ := optAlign_mem hl
      exact ⟨.alignDot a, rfl⟩
    · obtain ⟨off, p, h, rfl⟩ := gpLine_mem hl
      exact ⟨.gp off p h, rfl⟩
    · subst hl; exact ⟨.symDot _ IsName.endsOk, rfl⟩
  · simp at hl

theorem sectionSymStart_inner (cx : Ctx) (seg : Segment) (sec : Str) :
    ∀ l ∈ sectionSymStart cx seg sec, InnerLine cx.d.settings.style seg.wildcardSections l :=
  fun l hl => (sectionSymStart_lines cx seg sec l hl).1

theorem sectionSymStart_simple (cx : Ctx) (seg : Segment) (sec : Str) : ∀ l ∈ sectionSymStart cx seg sec, simple l = true :=
  fun l hl => (sectionSymStart_lines cx seg sec l hl).2

theorem sectionSymEnd_lines (cx : Ctx) (seg : Segment) (sec : Str) :
    ∀ l ∈ sectionSymEnd cx seg sec, InnerLine cx.d.settings.style seg.wildcardSections l ∧ simple l = true := by
  intro l hl
  unfold sectionSymEnd at hl
  split at hl
  · simp only [List.mem_append, List.mem_cons, List.mem_nil_iff, or_false, symEndSize] at hl
    rcases hl with (hl | hl) | hl
    · obtain ⟨a, rfl⟩ := optAlign_mem hl
      exact ⟨.alignDot a, rfl⟩
    · obtain ⟨a, rfl⟩ := optAlign_mem hl
      exact ⟨.alignDot a, rfl⟩
    · rcases hl with hl | hl
      · subst hl; exact ⟨.symDot _ IsName.endsOk, rfl⟩
      · subst hl; exact ⟨.symSize _ _ _ IsName.endsOk, rfl⟩
  · simp at hl

theorem sectionSymEnd_inner (cx : Ctx) (seg : Segment) (sec : Str) :
    ∀ l ∈ sectionSymEnd cx seg sec, InnerLine cx.d.settings.style seg.wildcardSections l :=
  fun l hl => (sectionSymEnd_lines cx seg sec l hl).1

theorem sectionSymEnd_simple (cx : Ctx) (seg : Segment) (sec : Str) : ∀ l ∈ sectionSymEnd cx seg sec, simple l = true :=
  fun l hl => (sectionSymEnd_lines cx seg sec l hl).2

theorem InnerLine.simple_or_input {st : Style} {wild : Bool} {l : Line} (h : InnerLine st wild l) :
    simple l = true ∨ ∃ k p m s, l = .input k p m s wild := by
  cases h with
  | body hb =>
    cases hb with
    | input k p m s => exact .inr ⟨k, p, m, s, rfl⟩
    | _ => exact .inl rfl
  | _ => exact .inl rfl

theorem sectionLoop_mem (f : Str → R (List Line)) (l : List Str) (r : List Line)
    (h : sectionLoop f l = .ok r) : ∀ x ∈ r, x = .blank ∨ ∃ s ∈ l, ∃ rs, f s = .ok rs ∧ x ∈ rs := by
  induction l generalizing r with
  | nil => cases h; exact fun x hx => nomatch hx
  | cons a as ih =>
    cases as with
    | nil => exact fun x hx => .inr ⟨a, List.mem_cons_self, r, h, hx⟩
    | cons b bs =>
      rw [sectionLoop_cons_cons] at h
      obtain ⟨ra, hra, h⟩ := bind_eq_ok.1 h
      obtain ⟨rb, hrb, h⟩ := bind_eq_ok.1 h
      cases h
      intro x hx
      simp only [List.mem_append, List.mem_cons, List.mem_nil_iff, or_false] at hx
      rcases hx with (hx | hx) | hx
      · exact .inr ⟨a, List.mem_cons_self, ra, hra, hx⟩
      · exact .inl hx
      · rcases ih rb hrb x hx with h1 | ⟨s, hs, rs, hfs, hxs⟩
        · exact .inl h1
        · exact .inr ⟨s, List.mem_cons_of_mem _ hs, rs, hfs, hxs⟩

end W
end Slinky
