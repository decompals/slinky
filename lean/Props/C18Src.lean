/-
  C18, the tail of `SECTIONS` — tied to the source text (lean/Src/Formats.lean, regenerated from
  script_buffer.rs / linker_writer.rs on every run).
-/
import Src.Formats
import Slinkyv.Script
import Props.Render
namespace Slinky.C18

/-- `write_single_entry_section(sect, "0")` in both allowlist loops of `end_sections`. -/
theorem single_entry_src (sec : Str) :
    (Line.singleEntry sec c!"0").renderBody
      = fmt Src.sb__write_single_entry_section_0 [.s sec, .s (fmt Src.lw__end_sections_1 []), .s sec]
    ∧ Src.lw__end_sections_1 = Src.lw__end_sections_2 := by
  constructor
  · unfold Line.renderBody Src.sb__write_single_entry_section_0 Src.lw__end_sections_1
    simp only [fmtNorm]
  · rfl

theorem discard_header_src : Line.discardHdr.renderBody = fmt Src.lw__end_sections_3 [] := rfl

theorem discard_pattern_src (p : Str) : (Line.discardPat p).renderBody = fmt Src.lw__end_sections_4 [.s p] := by
  unfold Line.renderBody Src.lw__end_sections_4
  simp only [fmtNorm]

/-- the final `*(*);` is the pattern statement for `*`. -/
theorem discard_wildcard_src : (Line.discardPat c!"*").renderBody = fmt Src.lw__end_sections_5 [] := rfl

theorem counts_src : Src.lw__end_sections_count = 6 ∧ Src.sb__write_single_entry_section_count = 1 := ⟨rfl, rfl⟩

end Slinky.C18
