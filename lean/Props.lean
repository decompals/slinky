import Props.Lemmas
import Props.Getters
import Props.FmtAttr
import Props.Render
import Props.Emit
import Props.Writer
import Props.WriterInv
import Props.Names
import Props.C01
import Props.C02
import Props.C03
import Props.C04
import Props.C05
import Props.C06
import Props.C07
import Props.C08
import Props.C09
import Props.C10
import Props.C11
import Props.C12
import Props.C13
import Props.C14
import Props.C15
import Props.C16
import Props.C17
import Props.C18
import Props.C19
import Props.C20
import Props.Image
import Props.ImageGroup
import Props.ImageSegment
import Props.ImageDoc
import Props.ImageClass
import Props.ImageTail
import Props.C01Order
import Props.C01Sub
import Props.C11TwoStep
import Props.C03Hex
import Props.C06Trace
import Props.C11Gen
import Props.C01Script
import Props.Final
import Props.MainScript
import Props.Example
import Props.C04Final
import Props.ImageRom
import Props.C01Seg
import Props.C05Src
import Props.C08Src
import Props.C16Src
import Props.C03Final
import Props.C03Vram
import Props.C01Src
import Props.C03Src
import Props.C04Src
import Props.C05Fmt
import Props.C08Fmt
import Props.C09Src
import Props.C10Src
import Props.C11Src
import Props.C12Src
import Props.C13Src
import Props.C17Src
import Props.C18Src
import Props.C20Src
import Props.C03Follows
import Props.FinalSecs
import Props.C03Default
import Props.C03Start
import Props.C05Final
import Props.C10Final
import Props.C06Src
import Props.C16Logic
import Props.C03Partial
import Props.C17Final
import Props.C03Hdr
import Props.C02Final
import Props.C18Final
import Props.C18Discard
import Props.C13Final
import Props.C10Symbol
import Props.C10End
import Props.C10Size
